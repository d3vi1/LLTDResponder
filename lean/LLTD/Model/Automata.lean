/-
  Model of lltdAutomata.c: the generic table interpreter shared by the three
  automata, the per-state timeout pre-emption of switch_state_mapping /
  switch_state_session, the session table, the RepeatBand statistics, the
  mapping charge/inactivity bookkeeping and automata_tick.

  Everything that is *data* (tables, timeouts, constants) comes from
  `LLTD.X` (Generated/Extracted.lean, regenerated from the C code on every run);
  the control flow below is a hand transcription validated differentially.
  No Mathlib.
-/
import LLTD.Generated.Extracted

namespace LLTD

abbrev Mac := List Nat            -- six bytes
abbrev TransTable := List (Nat × Nat × Int)

def u8  : Nat := 256
def u16 : Nat := 65536
def u32 : Nat := 4294967296
def u64 : Nat := 18446744073709551616

/-! ## Generic interpreter -/

/-- `for i in 0..transitions_no: if cur == t[i].from && t[i].with == input then new = t[i].to, find = i`:
    the last matching row wins.  Returns (new state, found). -/
def lookup (tbl : TransTable) (cur : Nat) (input : Int) : Nat × Bool :=
  tbl.foldl (fun acc r => if cur = r.1 ∧ r.2.2 = input then (r.2.1, true) else acc) (cur, false)

structure Fsm where
  state  : Nat
  lastTs : Nat          -- seconds
deriving Repr, DecidableEq

def timeoutOf (tos : List Nat) (s : Nat) : Nat := tos.getD s 0

/-- `now - last_ts` in uint64_t. -/
def diff64 (now last : Nat) : Nat := (now + u64 - last % u64) % u64

/-- switch_state_mapping / switch_state_session.  The C functions call
    themselves once more when the state's timeout has elapsed (with input -1 and
    `last_ts` already refreshed); `fuel` makes that recursion structural and
    `stepTimedAux_fuel` (Lemmas) shows that two levels are all it ever uses. -/
def stepTimedAux (tbl : TransTable) (tos : List Nat) : Nat → Fsm → Int → Nat → Fsm
  | 0, a, _, _ => a
  | fuel + 1, a, input, now =>
    let t := timeoutOf tos a.state
    let expired := t ≠ 0 ∧ diff64 now a.lastTs > t
    let input' : Int := if expired then -1 else input
    let a' : Fsm := { state := (lookup tbl a.state input').1, lastTs := now }
    if expired then stepTimedAux tbl tos fuel a' input' now else a'

def stepTimed (tbl : TransTable) (tos : List Nat) (a : Fsm) (input : Int) (now : Nat) : Fsm :=
  stepTimedAux tbl tos 2 a input now

/-- the same with a clock that moves WHILE the call runs: the function reads the clock once at entry (`now1`) and — only
    when the state had expired and it calls itself again — a second time (`now2`).  The decision and, unless expired, the
    stamp use the reading at entry. -/
def stepTimedR (tbl : TransTable) (tos : List Nat) (a : Fsm) (input : Int) (now1 now2 : Nat) : Fsm :=
  let t := timeoutOf tos a.state
  let expired := t ≠ 0 ∧ diff64 now1 a.lastTs > t
  let input' : Int := if expired then -1 else input
  let a' : Fsm := { state := (lookup tbl a.state input').1, lastTs := now1 }
  if expired then stepTimedAux tbl tos 1 a' input' now2 else a'

/-- switch_state_enumeration: no timeout handling. -/
def stepPlain (tbl : TransTable) (a : Fsm) (input : Int) (now : Nat) : Fsm :=
  { state := (lookup tbl a.state input).1, lastTs := now }

def stepMapping (a : Fsm) (input : Int) (now : Nat) : Fsm := stepTimed X.mappingTable X.mappingTimeouts a input now
def stepSession (a : Fsm) (input : Int) (now : Nat) : Fsm := stepTimed X.sessionTable X.sessionTimeouts a input now
def stepEnumeration (a : Fsm) (input : Int) (now : Nat) : Fsm := stepPlain X.enumerationTable a input now
def stepMappingR (a : Fsm) (input : Int) (now1 now2 : Nat) : Fsm := stepTimedR X.mappingTable X.mappingTimeouts a input now1 now2
def stepSessionR (a : Fsm) (input : Int) (now1 now2 : Nat) : Fsm := stepTimedR X.sessionTable X.sessionTimeouts a input now1 now2

/-! ## Mapping extra state -/

structure MapState where
  ctc      : Nat     -- uint8_t
  chargeTs : Nat
  inactTs  : Nat
deriving Repr, DecidableEq

def MapState.init : MapState := { ctc := 0, chargeTs := 0, inactTs := 0 }
def mapResetCharge (m : MapState) : MapState := { m with ctc := 0, chargeTs := 0 }
def mapOnCharge (m : MapState) (nowS : Nat) : MapState := { m with ctc := (m.ctc + 1) % u8, chargeTs := nowS + 1 }
def mapCheckCharge (m : MapState) (nowS : Nat) : MapState × Bool :=
  if m.chargeTs = 0 then (m, false)
  else if nowS ≥ m.chargeTs then ({ m with ctc := 0, chargeTs := 0 }, true) else (m, false)
def mapCheckInactive (m : MapState) (nowS : Nat) : Bool := m.inactTs ≠ 0 ∧ nowS ≥ m.inactTs
def mapResetInactive (m : MapState) (nowS : Nat) : MapState := { m with inactTs := nowS + 30 }

/-! ## RepeatBand -/

structure Band where
  ni      : Nat     -- uint32_t
  r       : Nat     -- uint32_t
  begun   : Bool
  helloTs : Nat     -- ms
  blockTs : Nat     -- ms
deriving Repr, DecidableEq

def Band.init : Band :=
  { ni := X.bandInitNi, r := X.bandInitR, begun := X.bandInitBegun ≠ 0, helloTs := X.bandInitHello, blockTs := X.bandInitBlock }

def bandInitStats (_b : Band) (nowMs : Nat) : Band :=
  { ni := X.bandAlpha, r := 0, begun := false, helloTs := 0, blockTs := nowMs + X.bandBlockTime }

/-- the `for (i = 1; i < BETA; i++) { p *= r; if (p > NMAX) p = NMAX; }` loop, in uint64_t -/
def satPowLoop (r : Nat) : Nat → Nat → Nat
  | 0, p => p
  | k + 1, p =>
    let p' := (p * r) % u64
    satPowLoop r k (if p' > X.bandNmax then X.bandNmax else p')

def bandNewNi (r : Nat) : Nat :=
  let p := satPowLoop r (X.bandBeta - 1) r
  let n := (X.bandAlpha * p) % u64
  if n > X.bandNmax then X.bandNmax else n % u32

def bandUpdateStats (b : Band) (nowMs : Nat) : Band :=
  let ni := if b.r > 0 ∧ b.begun then bandNewNi b.r else b.ni
  { b with ni := ni, r := 0, blockTs := nowMs + X.bandBlockTime }

def bandInterval (ni : Nat) : Nat :=
  let num := X.bandTxc * ni * 20
  let den := X.bandGamma * 3
  let q := num / den + (if num % den ≠ 0 then 1 else 0)
  if q < X.bandMulFrame1 then X.bandMulFrame1 else q

def bandChooseHelloTime (b : Band) (nowMs : Nat) : Band :=
  { b with helloTs := nowMs + bandInterval b.ni }

def bandDoHello (b : Band) (nowMs : Nat) : Band :=
  { bandChooseHelloTime b nowMs with begun := true }

def bandOnHelloReceived (b : Band) : Band :=
  let r := (b.r + 1) % u32
  { b with r := r, begun := if r ≥ X.bandGamma ∧ ¬ b.begun then true else b.begun }

/-! ## Session table -/

structure Entry where
  mac      : Mac
  gen      : Nat
  seq      : Nat
  state    : Nat
  complete : Bool
  valid    : Bool
  last     : Nat
  created  : Nat
deriving Repr, DecidableEq

def Entry.zero : Entry :=
  { mac := [0,0,0,0,0,0], gen := 0, seq := 0, state := 0, complete := false, valid := false, last := 0, created := 0 }

structure Table where
  entries     : List Entry
  count       : Nat        -- uint8_t
  allComplete : Bool
deriving Repr, DecidableEq

def Table.create : Table :=
  { entries := List.replicate X.maxEntries Entry.zero, count := 0, allComplete := true }

def Entry.matches (e : Entry) (mac : Mac) (gen : Nat) : Bool := e.valid && e.mac == mac && e.gen == gen

/-- session_table_find: index of the first valid slot with this (mac, generation) -/
def Table.find (t : Table) (mac : Mac) (gen : Nat) : Option Nat :=
  let i := t.entries.findIdx (fun e => e.matches mac gen)
  if i < t.entries.length then some i else none

def Table.firstFree (t : Table) : Option Nat :=
  let i := t.entries.findIdx (fun e => !e.valid)
  if i < t.entries.length then some i else none

/-- session_table_update_complete_status -/
def Table.updateStatus (t : Table) : Table :=
  { t with allComplete := t.entries.all (fun e => !e.valid || e.complete) }

/-- rewrite the first slot satisfying `p` (what the C loops with `break` / early `return` do) -/
def updateFirst (p : Entry → Bool) (f : Entry → Entry) : List Entry → List Entry
  | [] => []
  | e :: es => if p e then f e :: es else e :: updateFirst p f es

def newEntry (mac : Mac) (gen seq nowS : Nat) : Entry :=
  { mac := mac, gen := gen, seq := seq, state := X.sessNoack, complete := false, valid := true, last := nowS, created := nowS }

/-- session_table_add; returns the slot or none -/
def Table.add (t : Table) (mac : Mac) (gen seq nowS : Nat) : Table × Option Nat :=
  if t.entries.any (fun e => e.matches mac gen) then
    ({ t with entries := updateFirst (fun e => e.matches mac gen) (fun e => { e with seq := seq, last := nowS }) t.entries },
     t.find mac gen)
  else if t.entries.any (fun e => !e.valid) then
    ({ entries := updateFirst (fun e => !e.valid) (fun _ => newEntry mac gen seq nowS) t.entries,
       count := (t.count + 1) % u8, allComplete := false }, t.firstFree)
  else (t, none)

def Table.remove (t : Table) (mac : Mac) (gen : Nat) : Table :=
  let t' := if t.entries.any (fun e => e.matches mac gen) then
      { t with entries := updateFirst (fun e => e.matches mac gen) (fun e => { e with valid := false }) t.entries,
               count := if t.count > 0 then t.count - 1 else t.count }
    else t
  t'.updateStatus

def Table.clear (_t : Table) : Table := Table.create

def Table.isEmpty (t : Table) : Bool := t.count == 0

/-- what the Darwin glue does on an acknowledging Discover: `entry->complete = true` then update status -/
def Table.markComplete (t : Table) (mac : Mac) (gen : Nat) : Table :=
  ({ t with entries := updateFirst (fun e => e.matches mac gen) (fun e => { e with complete := true }) t.entries } : Table).updateStatus

/-- glue: `entry->state = ev; entry->last_activity_ts = now` -/
def Table.touch (t : Table) (mac : Mac) (gen st nowS : Nat) : Table :=
  { t with entries := updateFirst (fun e => e.matches mac gen) (fun e => { e with state := st, last := nowS }) t.entries }

/-- the expiry sweep of automata_tick -/
def expireLoop (nowS : Nat) : List Entry → Nat → List Entry × Nat
  | [], c => ([], c)
  | e :: es, c =>
    if e.valid ∧ nowS > e.last + 60 then
      let (es', c') := expireLoop nowS es (if c > 0 then c - 1 else c)
      ({ e with valid := false } :: es', c')
    else
      let (es', c') := expireLoop nowS es c
      (e :: es', c')

def Table.expire (t : Table) (nowS : Nat) : Table :=
  let (es, c) := expireLoop nowS t.entries t.count
  ({ t with entries := es, count := c } : Table).updateStatus

/-! ## automata_tick -/

inductive PortMode where
  | wired | nolast | none
deriving Repr, DecidableEq

structure TickState where
  mapping : Option (Fsm × Option MapState)
  enum    : Option (Fsm × Option Band)
  table   : Option Table
  lastTx  : Nat
deriving Repr, DecidableEq

/-- the mapping block of automata_tick (inactivity deadline, charge deadline) -/
def tickMapStage (mp : Option (Fsm × Option MapState)) (tb : Option Table) (nowS : Nat) :
    Option (Fsm × Option MapState) × Option Table :=
  match mp with
  | some (f, some m) =>
    let (f1, m1, tb1) :=
      if mapCheckInactive m nowS then
        (stepMapping f (-1) nowS, mapResetCharge { m with inactTs := 0 }, tb.map Table.clear)
      else (f, m, tb)
    (some (f1, some (mapCheckCharge m1 nowS).1), tb1)
  | other => (other, tb)

def tableEmptyOf (table : Option Table) : Bool := match table with | some t => t.isEmpty | none => true
def allCompleteOf (table : Option Table) : Bool := match table with | some t => t.allComplete | none => true

/-- the table-driven state update that precedes any transmit -/
def enumUpdate (e : Fsm) (b : Band) (tableEmpty allComplete : Bool) (nowS : Nat) : Fsm × Band :=
  if e.state ≠ 0 then
    if tableEmpty then ({ e with state := 0 }, { b with helloTs := 0, blockTs := 0, begun := false })
    else if allComplete then (stepEnumeration e X.enumSessComplete nowS, b)
    else (stepEnumeration e X.enumSessNotComplete nowS, b)
  else (e, b)

/-- the Hello-timeout branch (state Pausing): (automaton, band, last-transmit time stamp, Hellos sent) -/
def enumHello (e : Fsm) (b : Band) (lastTx0 : Nat) (port : PortMode) (nowMs : Nat) : Fsm × Band × Nat × List Nat :=
  if b.helloTs > 0 ∧ nowMs ≥ b.helloTs then
    let lastTx := match port with | .wired => lastTx0 | _ => 0
    if lastTx > 0 ∧ diff64 nowMs lastTx < X.helloMinIntervalMs then
      (e, { b with helloTs := lastTx + X.helloMinIntervalMs }, lastTx0, [])
    else
      let sent := match port with | .none => false | _ => true
      let lastTx' := match port with | .wired => nowMs | _ => lastTx0
      let b' := bandDoHello b nowMs
      let b'' := if b'.helloTs < nowMs + X.helloMinIntervalMs then { b' with helloTs := nowMs + X.helloMinIntervalMs } else b'
      (stepEnumeration e X.enumHello (nowMs / 1000), b'', lastTx', if sent then [nowMs] else [])
  else (e, b, lastTx0, [])

/-- the block-timeout branch -/
def enumBlock (b : Band) (nowMs : Nat) : Band :=
  if b.blockTs > 0 ∧ nowMs ≥ b.blockTs then bandChooseHelloTime (bandUpdateStats b nowMs) nowMs else b

/-- the enumeration block of automata_tick; returns the automaton, the last-transmit
    time stamp and the periodic Hellos sent (times in ms) -/
def tickEnumStage (en : Option (Fsm × Option Band)) (table : Option Table) (lastTx0 : Nat) (port : PortMode) (nowMs : Nat) :
    Option (Fsm × Option Band) × Nat × List Nat :=
  match en with
  | some (e, some b) =>
    let u := enumUpdate e b (tableEmptyOf table) (allCompleteOf table) (nowMs / 1000)
    if u.1.state = 1 then
      let r := enumHello u.1 u.2 lastTx0 port nowMs
      (some (r.1, some (enumBlock r.2.1 nowMs)), r.2.2.1, r.2.2.2)
    else (some (u.1, some u.2), lastTx0, [])
  | other => (other, lastTx0, [])

/-- one call of automata_tick; second component: the periodic Hellos sent (times in ms) -/
def tick (s : TickState) (port : PortMode) (nowMs : Nat) : TickState × List Nat :=
  let nowS := nowMs / 1000
  let (mapping, table) := tickMapStage s.mapping s.table nowS
  let table := table.map (fun t => t.expire nowS)
  let (en, lastTx, hellos) := tickEnumStage s.enum table s.lastTx port nowMs
  ({ mapping := mapping, enum := en, table := table, lastTx := lastTx }, hellos)

/-! ## automata_tick with a clock that moves while the tick runs

The function reads the millisecond clock once at entry (`nowMs`), then the seconds clock (`nowS`: only the session expiry uses
this reading); every deadline helper, automaton step and RepeatBand routine it calls reads the clock AGAIN (`nowL`, ms; their
seconds reading is `nowL / 1000`).  With all three equal this is `tick` (`tickR_same`). -/

def enumHelloR (e : Fsm) (b : Band) (lastTx0 : Nat) (port : PortMode) (nowMs nowL : Nat) : Fsm × Band × Nat × List Nat :=
  if b.helloTs > 0 ∧ nowMs ≥ b.helloTs then
    let lastTx := match port with | .wired => lastTx0 | _ => 0
    if lastTx > 0 ∧ diff64 nowMs lastTx < X.helloMinIntervalMs then
      (e, { b with helloTs := lastTx + X.helloMinIntervalMs }, lastTx0, [])
    else
      let sent := match port with | .none => false | _ => true
      let lastTx' := match port with | .wired => nowMs | _ => lastTx0
      let b' := bandDoHello b nowL
      let b'' := if b'.helloTs < nowMs + X.helloMinIntervalMs then { b' with helloTs := nowMs + X.helloMinIntervalMs } else b'
      (stepEnumeration e X.enumHello (nowL / 1000), b'', lastTx', if sent then [nowMs] else [])
  else (e, b, lastTx0, [])

def enumBlockR (b : Band) (nowMs nowL : Nat) : Band :=
  if b.blockTs > 0 ∧ nowMs ≥ b.blockTs then bandChooseHelloTime (bandUpdateStats b nowL) nowL else b

def tickEnumStageR (en : Option (Fsm × Option Band)) (table : Option Table) (lastTx0 : Nat) (port : PortMode) (nowMs nowL : Nat) :
    Option (Fsm × Option Band) × Nat × List Nat :=
  match en with
  | some (e, some b) =>
    let u := enumUpdate e b (tableEmptyOf table) (allCompleteOf table) (nowL / 1000)
    if u.1.state = 1 then
      let r := enumHelloR u.1 u.2 lastTx0 port nowMs nowL
      (some (r.1, some (enumBlockR r.2.1 nowMs nowL)), r.2.2.1, r.2.2.2)
    else (some (u.1, some u.2), lastTx0, [])
  | other => (other, lastTx0, [])

def tickR (s : TickState) (port : PortMode) (nowMs nowS nowL : Nat) : TickState × List Nat :=
  let (mapping, table) := tickMapStage s.mapping s.table (nowL / 1000)
  let table := table.map (fun t => t.expire nowS)
  let (en, lastTx, hellos) := tickEnumStageR s.enum table s.lastTx port nowMs nowL
  ({ mapping := mapping, enum := en, table := table, lastTx := lastTx }, hellos)

end LLTD
