/-
  C05 — One mapper at a time; Reset releases it; foreign services cannot seize it.
  Abstract state: `absM st` = the active mapper (if any).
-/
import LLTD.Lemmas.History
import LLTD.Props.C03

namespace LLTD.C05
open LLTD LLTD.Spec

def absM (st : St) : Option Mac := if st.known then some st.mapperReal else none

theorem absM_eq (st : St) : absM st = match absS st with | .active r _ => some r | _ => none := by
  unfold absM absS; cases st.known <;> rfl

theorem matches_iff (st : St) (r : Mac) : mapperMatches st r = true ↔ absM st = none ∨ absM st = some r := by
  unfold mapperMatches absM; cases st.known <;> simp

/-- frames of other services (type of service ≥ 2) never establish, change or release the mapper, never change any other
    state, and are never answered -/
theorem foreign (c : Cfg) (g : Glob) (w : World) (st : St) (img : List Nat) (h : 2 ≤ fTos img) :
    parseFrameSt c g w st img = { st := st, w := w, fx := [] } := by
  rw [parseFrameSt_req, reqOf_foreign img h]; rfl

/-- while a mapper is active, a Discover whose real source is another station gets no reply and changes nothing -/
theorem refuse (c : Cfg) (g : Glob) (w : World) (st : St) (img : List Nat) (m : Mac)
    (ha : absM st = some m) (hd : isDiscover img = true) (hne : fRealSrc img ≠ m) :
    parseFrameSt c g w st img = { st := st, w := w, fx := [] } :=
  C03.refused_discover_silent c g w st img hd <| Bool.eq_false_iff.mpr fun h => by
    rcases (matches_iff st _).mp h with h | h <;> rw [ha] at h
    · cases h
    · exact hne (Option.some.inj h).symm

/-- every Discover from the active mapper, and every Discover while no mapper is active, is answered by
    exactly one Hello, and afterwards the Discover's real source is the active mapper -/
theorem answer (c : Cfg) (g : Glob) (w : World) (st : St) (img : List Nat) (hc : CfgOk c)
    (hd : isDiscover img = true) (hacc : absM st = none ∨ absM st = some (fRealSrc img))
    (hm : (w.malloc c.mtuEff).2 = true) :
    (∃ ok, (parseFrameSt c g w st img).fx.filter (fun x => match x with | .send .. => true | _ => false) =
        [Fx.send ok c.idx (helloFrame c g (fDiscGen img) (fTos img) (fRealSrc img) (fEthSrc img))]) ∧
    absM (parseFrameSt c g w st img).st = some (fRealSrc img) := by
  have hmm := (matches_iff st _).mpr hacc
  refine ⟨C03.hello_frame c g w st img hc hd hmm hm, ?_⟩
  obtain ⟨hl, hd⟩ := (isDiscover_iff img).mp hd
  have hk := preStep_known st img
  have hr : (preStep st img).mapperReal = fRealSrc img :=
    ((mapperMatches_iff _ _).mp (preStep_matches st img hmm)).resolve_left (by rw [hk]; exact Bool.noConfusion)
  have hst : absM (helloSt (preStep st img) img) = some (fRealSrc img) := by
    rw [absM_eq, absS_helloSt _ img hk, ← absM_eq, absM, hk, hr]; rfl
  rw [parseFrameSt_req, hd, reactTo, if_pos hmm, answerHello_ok c g w _ img hc hl hm]
  exact hst

/-- a Reset of either discovery service releases the mapper -/
theorem reset (c : Cfg) (g : Glob) (w : World) (st : St) (img : List Nat)
    (htos : fTos img = 0 ∨ fTos img = 1) (hop : fOpcode img = 8) :
    absM (parseFrameSt c g w st img).st = none := by
  rcases htos with t | t
  · rw [parseFrameSt_req, (reqOf_reset0 img).mpr ⟨t, hop⟩]; rfl
  · rw [parseFrameSt_req, (reqOf_reset1 img).mpr ⟨t, hop⟩]; rfl

/-- after a Reset the next Discover from ANY station is accepted -/
theorem reset_then_open (st : St) (r : Mac) (h : absM st = none) : mapperMatches st r = true :=
  (matches_iff st r).mpr (.inl h)

/-- frames that are not commands, Discovers or Resets of a discovery service (Hello, Probe, Train, ACK, QueryResp,
    Charge, Flat, unknown opcodes) leave the active mapper untouched -/
theorem persist_other (c : Cfg) (g : Glob) (w : World) (st : St) (img : List Nat)
    (hop : fOpcode img ≠ 0 ∧ fOpcode img ≠ 2 ∧ fOpcode img ≠ 6 ∧ fOpcode img ≠ 8 ∧ fOpcode img ≠ 11) :
    absM (parseFrameSt c g w st img).st = absM st := by
  obtain ⟨n0, n2, n6, n8, n11⟩ := hop
  rw [parseFrameSt_req]
  cases hr : reqOf img <;> simp only [reactTo]
  case discover => exact absurd ((reqOf_discover img).mp hr).2 n0
  case emit => exact absurd ((reqOf_emit img).mp hr).2 n2
  case query => exact absurd ((reqOf_query img).mp hr).2 n6
  case large => exact absurd ((reqOf_large img).mp hr).2 n11
  case reset0 => exact absurd ((reqOf_reset0 img).mp hr).2 n8
  case reset1 => exact absurd ((reqOf_reset1 img).mp hr).2 n8
  case probe =>
    exact parseProbe_cases (P := fun o => absM o.st = absM st) c w st img (fun _ => rfl) (fun _ _ _ => rfl)
      (fun _ _ _ _ => rfl) (fun _ _ _ _ => rfl)

/-- non-vacuity: the hijack closed by /repo commit 03ac42c — a ToS-2 frame with opcode 0 from a stranger — leaves a concrete
    active mapper in place -/
example : absM (parseFrameSt {} {} {} { known := true, mapperReal := [2, 0, 0, 0, 0, 0x11] }
    ([255,255,255,255,255,255, 2,0,0,0,0,0x12, 0x88,0xd9, 1, 2, 0, 0] ++ List.replicate 558 0)).st = some [2, 0, 0, 0, 0, 0x11] := by
  rw [foreign _ _ _ _ _ (by decide)]; rfl

/-! The history form: reply-or-silence of every Discover is a function of (last Reset, first accepted session opener since),
    which is what the specification's mapper state records and `Rel` ties to the record. -/

/-- the reply to a Discover: one frame when its sender is accepted and the buffer is granted, none otherwise; what is sent
    decodes as a Hello -/
theorem discover_reply (c : Cfg) (g : Glob) (w : World) (st : St) (img : List Nat) (hc : CfgOk c) (hd : isDiscover img = true) :
    (sends (obsOf c g img (parseFrameSt c g w st img).fx).fx).length =
        (if mapperMatches st (LLTD.fRealSrc img) = true ∧ (w.malloc c.mtuEff).2 = true then 1 else 0) ∧
      (helloReplies (obsOf c g img (parseFrameSt c g w st img).fx).fx).length =
        (sends (obsOf c g img (parseFrameSt c g w st img).fx).fx).length := by
  obtain ⟨hl, hd⟩ := (isDiscover_iff img).mp hd
  obtain ⟨h1, h2⟩ := fAddr_length img hl
  unfold helloReplies
  rw [sends_obsOf, discover_sent c g w st img hc hl hd]
  split
  · simp [decodeHello_helloFrame c g _ _ _ _ hc h1 h2]
  · exact ⟨rfl, rfl⟩

/-- The clause of C05 with `A` for what it asks of the reply to an accepted Discover (`holdsC05Rx`: exactly one frame, a Hello;
    `holdsC05RxF`: at most one, a Hello): it holds once `A` does whenever the model accepts.  A stranger is never answered, a frame
    of another service neither. -/
theorem step_clause (c : Cfg) (g : Glob) (w : World) (st : St) (img : List Nat) (s : SpecSt) (hc : CfgOk c) (hr : Rel st s.mapper)
    (A : Bool) (hA : isDiscover img = true → mapperMatches st (LLTD.fRealSrc img) = true → A = true) :
    (if !isDiscover img then
       if decide (img.length ≥ 32) && decide (Spec.fTos img ≥ 2) then (sends (obsOf c g img (parseFrameSt c g w st img).fx).fx).isEmpty
       else true
     else
       match s.mapper with
       | .unknown => true
       | .none => A
       | .active m _ => if Spec.fRealSrc img == m then A else (sends (obsOf c g img (parseFrameSt c g w st img).fx).fx).isEmpty) = true := by
  refine guarded (fun _ => ?_) fun hd => ?_
  · split
    · next hf =>
      have : 2 ≤ LLTD.fTos img := by
        rw [← spec_fTos]; exact of_decide_eq_true (Bool.and_eq_true_iff.mp hf).2
      rw [foreign c g w st img this]; rfl
    · rfl
  · have hrej : mapperMatches st (LLTD.fRealSrc img) = false → (sends (obsOf c g img (parseFrameSt c g w st img).fx).fx).isEmpty = true :=
      fun h => by rw [discover_silent c g w st img hc hd fun h' => Bool.noConfusion (h.symm.trans h'.1)]; rfl
    rcases hr with h | h <;> rw [h]
    unfold absS
    cases hk : st.known
    · exact hA hd ((mapperMatches_iff st _).mpr (.inl hk))
    · simp only [if_true, spec_fRealSrc]
      cases hq : (LLTD.fRealSrc img == st.mapperReal)
      · exact hrej (by rw [mapperMatches, hk, BEq.comm, hq]; rfl)
      · exact hA hd ((mapperMatches_iff st _).mpr (.inr (eq_of_beq hq).symm))

theorem step_holds (c : Cfg) (g : Glob) (w : World) (st : St) (img : List Nat) (s : SpecSt) (hc : CfgOk c) (hw : NoMFault w)
    (hr : Rel st s.mapper) : holdsC05Rx s (obsOf c g img (parseFrameSt c g w st img).fx) = true :=
  step_clause c g w st img s hc hr _ fun hd hacc => by
    obtain ⟨h1, h2⟩ := discover_reply c g w st img hc hd
    rw [if_pos ⟨hacc, malloc_nmf w _ hw⟩] at h1
    rw [h2, h1]; rfl

theorem step_holds_any (c : Cfg) (g : Glob) (w : World) (st : St) (img : List Nat) (s : SpecSt) (hc : CfgOk c)
    (hr : Rel st s.mapper) : holdsC05RxF s (obsOf c g img (parseFrameSt c g w st img).fx) = true :=
  step_clause c g w st img s hc hr _ fun hd _ => by
    obtain ⟨h1, h2⟩ := discover_reply c g w st img hc hd
    rw [h2, beq_self_eq_true, Bool.and_true, h1]
    split <;> rfl

/-- THE HISTORY THEOREM FOR EVERY PLATFORM BEHAVIOUR: whatever allocations and transmits are refused along the way, no stranger is
    ever answered, the mapper gets at most one frame per Discover and it is a Hello, and who the mapper is follows the
    specification (a Hello that could not be built still makes its addressee the mapper) -/
theorem history_any (c : Cfg) (g : Glob) (own : List Nat) (hc : CfgOk c) (hm : c.failMtu = false) (imgs : List (List Nat))
    (himgs : ∀ img ∈ imgs, ImgOk img) (w : World) (st : St) (s : SpecSt) (hr : Rel st s.mapper) :
    (specStatesDom own 300 s (runObs c g w st imgs)).all (fun p => holdsC05RxF p.1 p.2) = true :=
  runObs_eq_runObsV c g imgs w st ▸ rel_historyV own 300 (fun _ => True) holdsC05RxF (fun _ _ _ _ _ _ => trivial)
    (fun c g w st img s hc _ hr => step_holds_any c g w st img s hc hr) _
    (List.forall_mem_map.mpr fun img h => ⟨hc, hm, himgs img h⟩) w st s trivial hr

/-- the attributes changing from frame to frame; only allocations must succeed -/
theorem history_varying (own : List Nat) (items : List (Cfg × Glob × List Nat))
    (hitems : ∀ it ∈ items, CfgOk it.1 ∧ it.1.failMtu = false ∧ ImgOk it.2.2) (w : World) (st : St) (s : SpecSt) (hw : NoMFault w)
    (hr : Rel st s.mapper) : (specStatesDom own 300 s (runObsV w st items)).all (fun p => holdsC05Rx p.1 p.2) = true :=
  rel_historyV own 300 NoMFault holdsC05Rx (fun c g w st img hw => nmf_of_sched hw (parseFrameSt_sched c g w st img))
    (fun c g w st img s hc hw hr => step_holds c g w st img s hc hw hr) items hitems w st s hw hr

/-- THE HISTORY THEOREM — for every frame history and every pattern of refused transmits (only allocations must succeed:
    a Hello that cannot be built is not sent) -/
theorem history (c : Cfg) (g : Glob) (own : List Nat) (hc : CfgOk c) (hm : c.failMtu = false) (imgs : List (List Nat))
    (himgs : ∀ img ∈ imgs, ImgOk img) (w : World) (st : St) (s : SpecSt) (hw : NoMFault w) (hr : Rel st s.mapper) :
    (specStatesDom own 300 s (runObs c g w st imgs)).all (fun p => holdsC05Rx p.1 p.2) = true :=
  runObs_eq_runObsV c g imgs w st ▸ history_varying own _ (List.forall_mem_map.mpr fun img h => ⟨hc, hm, himgs img h⟩) w st s hw hr

/-- from a freshly started responder: `holdsC05` of the whole trace -/
theorem history_fresh (c : Cfg) (g : Glob) (hc : CfgOk c) (hm : c.failMtu = false) (imgs : List (List Nat))
    (himgs : ∀ img ∈ imgs, ImgOk img) (w : World) (hw : NoMFault w) :
    holdsC05 c.mac (runObs c g w {} imgs) = true :=
  history c g c.mac hc hm imgs himgs w {} {} hw (rel_abs _ _ rfl)

/-- non-vacuity of `history_any`: with every allocation refused an accepted Discover sends nothing, and the relaxed clause holds -/
example : holdsC05RxF { mapper := .none } { cfg := {}, glob := {}, frame := List.replicate 15 0 ++ [0, 0, 0] ++ List.replicate 42 0, fx := [] } = true := by decide

/-- non-vacuity: a platform that refuses EVERY transmit meets the hypothesis of `history` -/
example : NoMFault { failSendAll := true, failSend := [1, 2, 3] } := ⟨rfl, rfl⟩

end LLTD.C05
