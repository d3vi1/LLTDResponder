/-
  C03 — the history form, for EVERY fault schedule: a Discover that is answered at all is answered by the Hello of
  `C03.accepted_discover_answered`.  When the allocator refuses the transmit buffer nothing is sent, which `holdsC03Rx` allows:
  "exactly one" is C05's reply-or-silence clause (`C05.history`).
-/
import LLTD.Props.C03
import LLTD.Lemmas.History

namespace LLTD.C03H
open LLTD LLTD.Spec

theorem step_holds (c : Cfg) (g : Glob) (w : World) (st : St) (img : List Nat)
    (hc : CfgOk c) (hmac : c.failMac = false) (him : ImgOk img) :
    holdsC03Rx (obsOf c g img (parseFrameSt c g w st img).fx) = true := by
  refine discover_cases c g w st img hc (C03.accepted_discover_answered c g w st img hc hmac him.bytes) (fun _ hs => ?_) fun hd => ?_
  · unfold holdsC03Rx
    rw [hs, List.isEmpty_nil, Bool.or_true, if_pos rfl]
  · unfold holdsC03Rx
    rw [obsOf_frame, Bool.eq_false_iff.mpr hd, Bool.not_false, Bool.true_or, if_pos rfl]

/-- with the attributes changing from frame to frame, every fault schedule -/
theorem history_varying :
    ∀ (items : List (Cfg × Glob × List Nat)) (w : World) (st : St),
      (∀ it ∈ items, CfgOk it.1 ∧ it.1.failMac = false ∧ ImgOk it.2.2) → holdsC03 (C05.runObsV w st items) = true :=
  fun items w st hitems => run_all' (fun _ _ => True) _ holdsC03Rx
    (fun c g w st img ⟨hc, hmac, him⟩ _ => ⟨step_holds c g w st img hc hmac him, trivial⟩) items w st hitems trivial

/-- THE HISTORY THEOREM: every frame history, every fault schedule -/
theorem history (c : Cfg) (g : Glob) (hc : CfgOk c) (hmac : c.failMac = false) :
    ∀ (imgs : List (List Nat)) (w : World) (st : St), (∀ img ∈ imgs, ImgOk img) →
      holdsC03 (C05.runObs c g w st imgs) = true := by
  intro imgs w st himgs
  rw [runObs_eq_runObsV]
  exact history_varying _ w st (List.forall_mem_map.mpr fun img h => ⟨hc, hmac, himgs img h⟩)

end LLTD.C03H
