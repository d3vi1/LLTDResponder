/-
  C06 for the translated source (DESIGN.md section 12.10): `setLltdHeaderEx` of lltdWire.c with the arguments `sendProbeMsg`
  (lltdBlock.c) passes on the zeroed 32-byte frame stores the frame `C06.probeFrame_spec` is about, and with the arguments of the
  acknowledgement the frame of `C06.ackFrame_spec`.  Trusted: the choice of the arguments (which address goes where) is what the
  hand model transcribes and the correspondence runs tie to the C text.
-/
import LLTD.Lemmas.Handlers
import LLTD.Lemmas.TranslatedWireEq

namespace LLTD.C06T
open LLTD LLTD.TWEq

theorem probe_frame_translated (env : TW.Env) (c : Cfg) (hc : CfgOk c) (src dst : Mac) (ty : Nat)
    (hs : src.length = 6) (hd : dst.length = 6) :
    (TW.setLltdHeaderEx env (List.replicate 32 0) src dst c.ourMac dst 0 (if ty = 1 then X.opProbe else X.opTrain) X.tosDiscovery).buffer
      = C06.probeFrame c src dst ty := by
  have hop : (if ty = 1 then X.opProbe else X.opTrain) < 256 := by split <;> decide
  have h := setLltdHeaderEx_zero env [] src dst c.ourMac dst 0 _ X.tosDiscovery hs hd (ourMac_length c hc) hd (by decide) hop (by decide)
  rw [List.append_nil] at h
  rw [h.1]; simp [C06.probeFrame]

theorem ack_frame_translated (env : TW.Env) (c : Cfg) (hc : CfgOk c) (st : St)
    (ha : st.mapperApparent.length = 6) (hr : st.mapperReal.length = 6) (hseq : st.seq < 65536) :
    (TW.setLltdHeaderEx env (List.replicate 32 0) c.ourMac st.mapperApparent c.ourMac st.mapperReal st.seq X.opAck X.tosDiscovery).buffer
      = C06.ackFrame c st := by
  have hm := ourMac_length c hc
  have h := setLltdHeaderEx_zero env [] c.ourMac st.mapperApparent c.ourMac st.mapperReal st.seq X.opAck X.tosDiscovery hm ha hm hr hseq
    (by decide) (by decide)
  rw [List.append_nil] at h
  rw [h.1]; simp [C06.ackFrame]

end LLTD.C06T
