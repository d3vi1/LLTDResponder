/-
  C16 for the translated source: session_table_add / _find / _remove / _clear / _update_complete_status as translated from
  lltdAutomata.c (tools/c2lean.py; pointer results are slot indices) keep the table consistent under any sequence of calls, by
  simulation: each translated call does to the record what the model's operation does (`Lemmas/TranslatedEq.lean`), so
  `C16.reach` / `add_spec` / `remove_inv_spec` are statements about the source text.
-/
import LLTD.Props.C16
import LLTD.Lemmas.TranslatedEq

namespace LLTD.C16T
open LLTD LLTD.TEq LLTD.C16

/-- the calls of the session-table API (find changes nothing); the expiry sweep is part of `automata_tick`
    (`C12T.tick_inv_translated`), the glue's direct field writes are hand-modelled -/
inductive TOp where
  | add (mac : List Nat) (gen seq : Nat) | find (mac : List Nat) (gen seq : Nat) | remove (mac : List Nat) (gen : Nat)
  | clear | update | advance (s : Nat)

/-- the C parameter types: a 6-byte address, `uint16_t generation`, `uint16_t seq` (lltdAutomata.h) -/
def TOp.ok : TOp → Prop
  | .add m g q => m.length = 6 ∧ g < 65536 ∧ q < 65536
  | .find m _ _ => m.length = 6
  | .remove m _ => m.length = 6
  | _ => True

/-- the translated functions applied to a record (second component: the seconds clock) -/
def tstep (s : T.session_table × Nat) : TOp → T.session_table × Nat
  | .add m g q => ((T.session_table_add { nowMs := s.2 * 1000, nowS := s.2 } s.1 m g q).table, s.2)
  | .find m g q => ((T.session_table_find { nowMs := s.2 * 1000, nowS := s.2 } s.1 m g q).table, s.2)
  | .remove m g => ((T.session_table_remove { nowMs := s.2 * 1000, nowS := s.2 } s.1 m g).table, s.2)
  | .clear => ((T.session_table_clear { nowMs := s.2 * 1000, nowS := s.2 } s.1).table, s.2)
  | .update => ((T.session_table_update_complete_status { nowMs := s.2 * 1000, nowS := s.2 } s.1).table, s.2)
  | .advance d => (s.1, s.2 + d)

def toOp : TOp → Op
  | .add m g q => .add m g q | .find m g _ => .find m g | .remove m g => .remove m g
  | .clear => .clear | .update => .update | .advance d => .advance d

/-- what session_table_create leaves behind -/
def createT : T.session_table := { T.session_table.zero with all_complete := true }

theorem create_sim : tableOfC createT = Table.create := by decide

/-- beside `TInv`: the `_eq` theorems of the translated calls ask for 6-byte addresses (`TblOk.hmac`), since the C text copies six bytes -/
def MacOk (t : Table) : Prop := ∀ x ∈ t.entries, x.mac.length = 6

theorem macOk_create : MacOk Table.create := by
  intro x hx
  rw [List.mem_replicate.mp hx |>.2]; rfl

theorem macOk_step (t : Table) (now : Nat) (op : TOp) (hop : op.ok) (h : MacOk t) : MacOk (stepOp (t, now) (toOp op)).1 := by
  cases op with
  | add m g q =>
    simp only [toOp, stepOp, Table.add]
    split
    · exact updateFirst_all _ _ _ _ h (fun x hx => hx)
    · split
      · exact updateFirst_all _ _ _ _ h (fun _ _ => hop.1)
      · exact h
  | find m g q => exact h
  | remove m g =>
    simp only [toOp, stepOp, Table.remove, Table.updateStatus]
    split
    · exact updateFirst_all _ _ _ _ h (fun x hx => hx)
    · exact h
  | clear => exact macOk_create
  | update => exact h
  | advance d => exact h

theorem tblOk_of (t : T.session_table) (hi : TInv (tableOfC t)) (hm : MacOk (tableOfC t)) : TblOk t ∧ t.count < 256 := by
  refine ⟨⟨by simpa [tableOfC] using hi.len, ?_⟩, ?_⟩
  · intro x hx
    have := hm (entryOfC x) (by simp only [tableOfC, List.mem_map]; exact ⟨x, hx, rfl⟩)
    simpa [entryOfC] using this
  · have h1 := hi.count
    have h2 := live_le _ hi
    simp only [tableOfC] at h1 h2
    omega

/-- one step: the translated call does to the record what the model's operation does -/
theorem step_sim (t : T.session_table) (now : Nat) (op : TOp) (hop : op.ok) (hi : TInv (tableOfC t)) (hm : MacOk (tableOfC t)) :
    tableOfC (tstep (t, now) op).1 = (stepOp (tableOfC t, now) (toOp op)).1 ∧ (tstep (t, now) op).2 = (stepOp (tableOfC t, now) (toOp op)).2 := by
  obtain ⟨hok, hc⟩ := tblOk_of t hi hm
  -- both steps are opened to the translated call and the model operation first: the `_eq` theorems then apply as stated,
  -- and the unifier is not left to unfold `tstep` / `stepOp` around a translated function
  cases op <;> simp only [tstep, toOp, stepOp, and_true]
  case add m g q => exact (session_table_add_eq _ t m g q hok hop.1).1
  case find m g q => rw [(session_table_find_eq _ t m g q hok hop).2]
  case remove m g => exact session_table_remove_eq _ t m g hok hop hc
  case clear => exact session_table_clear_eq _ t
  case update => exact session_table_update_complete_status_eq _ t hok.hlen

/-- under any sequence of the translated session-table calls (addresses of six bytes) the record the C text maintains is the
    model's table after the same operations - hence consistent: at most one session per key, at most 16, truthful count and
    all-complete flag (`C16.viewOk_of_inv`) -/
theorem reach_translated (ops : List TOp) (hops : ∀ op ∈ ops, op.ok) (now0 : Nat) :
    tableOfC (ops.foldl tstep (createT, now0)).1 = ((ops.map toOp).foldl stepOp (Table.create, now0)).1 ∧
    TInv (tableOfC (ops.foldl tstep (createT, now0)).1) := by
  suffices h : ∀ (s : T.session_table × Nat) (m : Table × Nat), tableOfC s.1 = m.1 → s.2 = m.2 → TInv m.1 → MacOk m.1 →
      tableOfC (ops.foldl tstep s).1 = ((ops.map toOp).foldl stepOp m).1 ∧ TInv (tableOfC (ops.foldl tstep s).1) by
    exact h (createT, now0) (Table.create, now0) create_sim rfl create_inv macOk_create
  induction ops with
  | nil => intro s m h1 _ hi _; exact ⟨h1, by simp only [List.foldl_nil]; rw [h1]; exact hi⟩
  | cons op rest ih =>
    intro s m h1 h2 hi hm
    obtain ⟨t, now⟩ := s
    obtain ⟨mt, mnow⟩ := m
    simp only at h1 h2
    subst h1; subst h2
    have hop := hops op (List.mem_cons_self ..)
    obtain ⟨s1, s2⟩ := step_sim t now op hop hi hm
    simp only [List.foldl_cons, List.map_cons]
    exact ih (fun o ho => hops o (List.mem_cons_of_mem _ ho)) (tstep (t, now) op) (stepOp (tableOfC t, now) (toOp op)) s1 s2
      (reach_step (tableOfC t, now) (toOp op) hi) (macOk_step (tableOfC t) now op hop hm)

-- non-vacuity: two sessions of one mapper under different generations through the translated add, then one removed
example : (tableOfC ([TOp.add [2,0,0,0,0,1] 1 5, TOp.add [2,0,0,0,0,1] 2 5, TOp.remove [2,0,0,0,0,1] 1].foldl tstep (createT, 7)).1).count = 1 := by
  decide +kernel

end LLTD.C16T
