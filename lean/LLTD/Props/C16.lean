/-
  C16 — The session table stays consistent under any sequence of operations.
  Invariant + refinement to the dictionary specification (Spec/Table.lean), by induction over operations.
-/
import LLTD.Lemmas.TableInv
import LLTD.Lemmas.XVals

namespace LLTD.C16
open LLTD LLTD.Spec

/-- 16 is `X.maxEntries` (`X.maxEntries_val`), the literal of `viewOk` -/
structure TInv (t : Table) : Prop where
  len   : t.entries.length = 16
  nodup : noDupKeys (liveS t.entries) = true
  count : t.count = (liveS t.entries).length
  allc  : t.allComplete = (liveS t.entries).all (·.complete)

theorem view_live (t : Table) : (viewOf t).live = liveS t.entries := rfl

theorem live_le (t : Table) (h : TInv t) : (liveS t.entries).length ≤ 16 := by
  have := liveS_length_le t.entries; rw [h.len] at this; exact this

/-- the invariant makes the observable view consistent: one session per key, at most 16, count and both flags truthful -/
theorem viewOk_of_inv (t : Table) (h : TInv t) : viewOk (viewOf t) = true := by
  have he : t.isEmpty = (liveS t.entries).isEmpty := by
    unfold Table.isEmpty; rw [h.count]; cases liveS t.entries <;> rfl
  show (noDupKeys (liveS t.entries) && decide ((liveS t.entries).length ≤ 16) && decide (t.count = (liveS t.entries).length) &&
    (t.isEmpty == (liveS t.entries).isEmpty) && (t.allComplete == (liveS t.entries).all (·.complete))) = true
  rw [h.nodup, decide_eq_true (live_le t h), decide_eq_true h.count, he, ← h.allc]
  simp only [Bool.true_and, beq_self_eq_true]

theorem liveS_create : liveS Table.create.entries = [] := congrArg (List.map sessOf) create_live

theorem create_inv : TInv Table.create := by
  refine ⟨?_, ?_, ?_, ?_⟩
  · simp [Table.create]
  · rw [liveS_create]; rfl
  · rw [liveS_create]; rfl
  · rw [liveS_create]; rfl

theorem updateStatus_inv (t : Table) (hl : t.entries.length = 16) (hn : noDupKeys (liveS t.entries) = true)
    (hc : t.count = (liveS t.entries).length) : TInv t.updateStatus :=
  ⟨hl, hn, hc, all_complete_eq t.entries⟩

/-- an operation whose result keeps the invariant and has the live view `L` meets every clause of `holdsC16` that says
    "the view is consistent and its live sessions are those of `L`" -/
theorem spec_of_live (t' : Table) (L : List Sess) (hinv : TInv t') (hlive : liveS t'.entries = L) :
    (viewOk (viewOf t') && sameSet (viewOf t').live L) = true := by
  rw [viewOk_of_inv _ hinv, Bool.true_and, view_live, hlive]; exact sameSet_refl _

theorem add_inv_spec (t : Table) (mac : Mac) (gen seq now : Nat) (h : TInv t) :
    TInv (t.add mac gen seq now).1 ∧
    holdsC16 (viewOf t) (viewOf (t.add mac gen seq now).1) (.add mac gen seq) (t.add mac gen seq now).2.isSome now = true := by
  -- in each case the invariant of the new table makes its view consistent, and the clause of `holdsC16` compares the live views
  cases hk : t.entries.any (fun e => e.matches mac gen) with
  | true =>
    -- known: the slot is refreshed
    have hlive := liveS_updateFirst_keep t.entries mac gen (fun e => { e with seq := seq, last := now })
      (fun s => { s with seq := seq, last := now }) (fun _ => rfl) (fun _ => rfl) h.nodup
    rw [t.add_present mac gen seq now hk]
    suffices hinv : TInv _ from ⟨hinv, by
      simp only [holdsC16, viewOk_of_inv _ hinv, view_live, ← any_matches_eq, hk, t.find_isSome, hlive, sameSet_refl, Bool.and_self,
        ↓reduceIte]⟩
    refine ⟨(updateFirst_length ..).trans h.len, ?_, ?_, ?_⟩
    · exact hlive ▸ noDupKeys_map_keep _ _ (fun s => by split <;> rfl) h.nodup
    · simp only [hlive, List.length_map]; exact h.count
    · simp only [hlive, h.allc, List.all_map]
      congr 1; funext s; simp only [Function.comp]; split <;> rfl
  | false =>
    cases hf : t.entries.any (fun e => !e.valid) with
    | true =>
      -- new, and a slot is free: the session joins the view
      have hp := liveS_updateFirst_insert t.entries (newEntry mac gen seq now) rfl hf
      have hlt : ¬ (liveS t.entries).length ≥ 16 := Nat.not_le.mpr (h.len ▸ (any_free_iff t.entries).mp hf)
      rw [t.add_free mac gen seq now hk hf]
      suffices hinv : TInv _ from ⟨hinv, by
        simp only [holdsC16, viewOk_of_inv _ hinv, view_live, ← any_matches_eq, hk, hlt, t.firstFree_isSome, hf, Bool.true_and,
          Bool.false_eq_true, ↓reduceIte]
        exact sameSet_perm _ _ hp⟩
      refine ⟨(updateFirst_length ..).trans h.len, ?_, ?_, ?_⟩
      · simp only [noDupKeys_perm _ _ hp, noDupKeys_cons, h.nodup, Bool.and_true, Bool.not_eq_true']
        exact (any_matches_eq ..).symm.trans hk
      · simp only [hp.length_eq, List.length_cons, h.count]
        exact Nat.mod_eq_of_lt (by unfold u8; omega)
      · simp only [hp.all_eq, List.all_cons]; rfl
    | false =>
      -- new, and the table is full
      have hge : (liveS t.entries).length ≥ 16 := by
        have := mt (any_free_iff t.entries).mpr (by simp [hf]); rw [h.len] at this; omega
      rw [t.add_none mac gen seq now hk hf]
      exact ⟨h, by simp only [holdsC16, viewOk_of_inv _ h, view_live, ← any_matches_eq, hk, hge, sameSet_refl, Option.isSome_none,
        Bool.not_false, Bool.and_self, Bool.false_eq_true, ↓reduceIte]⟩

theorem add_inv (t : Table) (mac : Mac) (gen seq now : Nat) (h : TInv t) : TInv (t.add mac gen seq now).1 :=
  (add_inv_spec t mac gen seq now h).1

theorem add_spec (t : Table) (mac : Mac) (gen seq now : Nat) (h : TInv t) :
    holdsC16 (viewOf t) (viewOf (t.add mac gen seq now).1) (.add mac gen seq) (t.add mac gen seq now).2.isSome now = true :=
  (add_inv_spec t mac gen seq now h).2

theorem find_spec (t : Table) (mac : Mac) (gen : Nat) (h : TInv t) :
    holdsC16 (viewOf t) (viewOf t) (.find mac gen) (t.find mac gen).isSome 0 = true := by
  simp only [holdsC16, viewOk_of_inv t h, view_live, sameSet_refl, Bool.and_true, t.find_isSome, any_matches_eq, beq_self_eq_true]

theorem remove_inv_spec (t : Table) (mac : Mac) (gen now : Nat) (h : TInv t) :
    TInv (t.remove mac gen) ∧ holdsC16 (viewOf t) (viewOf (t.remove mac gen)) (.remove mac gen) false now = true := by
  rw [Table.remove_eq]
  have hlive := liveS_updateFirst_drop t.entries mac gen h.nodup
  suffices hinv : TInv _ from ⟨hinv, spec_of_live _ _ hinv hlive⟩
  refine updateStatus_inv _ ((updateFirst_length ..).trans h.len) (hlive ▸ noDupKeys_filter _ _ h.nodup) ?_
  show (if _ then t.count - 1 else t.count) = (liveS (updateFirst _ _ t.entries)).length
  by_cases hk : t.entries.any (fun e => e.matches mac gen) = true
  · -- the slot invalidated held a live session
    have := liveS_length_drop_first _ t.entries (fun e he => ((matches_iff e mac gen).mp he).1) hk
    have hc := h.count
    rw [if_pos ⟨hk, by omega⟩]; omega
  · rw [if_neg (fun hc => hk hc.1), updateFirst_of_any_false _ (by simpa using hk)]; exact h.count

theorem clear_inv_spec (t : Table) (now : Nat) :
    TInv t.clear ∧ holdsC16 (viewOf t) (viewOf t.clear) .clear false now = true := by
  refine ⟨create_inv, ?_⟩
  unfold holdsC16
  rw [show viewOf t.clear = viewOf Table.create from rfl, viewOk_of_inv _ create_inv, Bool.true_and]
  simp only [view_live]
  rw [liveS_create]; rfl

theorem complete_inv_spec (t : Table) (mac : Mac) (gen now : Nat) (h : TInv t) :
    TInv (t.markComplete mac gen) ∧ holdsC16 (viewOf t) (viewOf (t.markComplete mac gen)) (.complete mac gen) false now = true := by
  have hlive := liveS_updateFirst_keep t.entries mac gen (fun e => { e with complete := true })
    (fun s => { s with complete := true }) (fun _ => rfl) (fun _ => rfl) h.nodup
  have hinv : TInv (t.markComplete mac gen) :=
    updateStatus_inv _ ((updateFirst_length ..).trans h.len) (hlive ▸ noDupKeys_map_keep _ _ (fun s => by split <;> rfl) h.nodup)
      (by rw [hlive, List.length_map]; exact h.count)
  exact ⟨hinv, spec_of_live _ _ hinv hlive⟩

/-- a session idle for more than 60 s is removed by the tick's sweep while fresher ones survive -/
theorem expire_inv_spec (t : Table) (now : Nat) (h : TInv t) :
    TInv (t.expire now) ∧ holdsC16 (viewOf t) (viewOf (t.expire now)) .expire false now = true := by
  have hlive := expire_live now t.entries t.count
  have hinv : TInv (t.expire now) :=
    updateStatus_inv _ (by rw [expireLoop_entries, updateAll, List.length_map]; exact h.len) (hlive ▸ noDupKeys_filter _ _ h.nodup)
      (by show (expireLoop now t.entries t.count).2 = _
          rw [hlive, expireLoop_count now t.entries t.count 0 (by rw [h.count]; omega)]; omega)
  exact ⟨hinv, spec_of_live _ _ hinv hlive⟩

inductive Op where
  | add (mac : Mac) (gen seq : Nat) | find (mac : Mac) (gen : Nat) | remove (mac : Mac) (gen : Nat)
  | clear | complete (mac : Mac) (gen : Nat) | update | expire | advance (s : Nat)

/-- (table, clock in seconds) -/
def stepOp : Table × Nat → Op → Table × Nat
  | (t, now), .add m g q => ((t.add m g q now).1, now)
  | (t, now), .find _ _ => (t, now)
  | (t, now), .remove m g => (t.remove m g, now)
  | (t, now), .clear => (t.clear, now)
  | (t, now), .complete m g => (t.markComplete m g, now)
  | (t, now), .update => (t.updateStatus, now)
  | (t, now), .expire => (t.expire now, now)
  | (t, now), .advance s => (t, now + s)

theorem reach_step (s : Table × Nat) (op : Op) (h : TInv s.1) : TInv (stepOp s op).1 := by
  obtain ⟨t, now⟩ := s
  cases op with
  | add m g q => exact add_inv t m g q now h
  | find m g => exact h
  | remove m g => exact (remove_inv_spec t m g now h).1
  | clear => exact create_inv
  | complete m g => exact (complete_inv_spec t m g now h).1
  | update => exact updateStatus_inv t h.len h.nodup h.count
  | expire => exact (expire_inv_spec t now h).1
  | advance s => exact h

/-- under ANY sequence of add / find / remove / clear / completion / status update / expiry tick / clock advance
    the table stays consistent (hence, by `viewOk_of_inv`, at most one session per key, at most 16, truthful
    count and flags) -/
theorem reach (ops : List Op) (now0 : Nat) : TInv (ops.foldl stepOp (Table.create, now0)).1 :=
  List.foldlRecOn (motive := fun s : Table × Nat => TInv s.1) ops stepOp create_inv (fun s h op _ => reach_step s op h)

/-- adding to a full table fails without disturbing existing sessions -/
theorem add_full (t : Table) (mac : Mac) (gen seq now : Nat) (h : TInv t) (hfull : (liveS t.entries).length = 16)
    (hnew : t.entries.any (fun e => e.matches mac gen) = false) : t.add mac gen seq now = (t, none) :=
  t.add_none mac gen seq now hnew (by
    cases hf : t.entries.any (fun e => !e.valid) with
    | false => rfl
    | true => have := (any_free_iff t.entries).mp hf; rw [h.len] at this; omega)

/-- non-vacuity: a concrete reachable table with two sessions of one mapper under different generations -/
example : (viewOf ([Op.add [2,0,0,0,0,1] 1 5, Op.add [2,0,0,0,0,1] 2 5, Op.complete [2,0,0,0,0,1] 1].foldl stepOp (Table.create, 7)).1).count = 2 := by
  decide

end LLTD.C16
