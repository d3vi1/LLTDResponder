/- C15 for the translated source (as Props/C13T.lean): switch_state_session follows the session life-cycle. -/
import LLTD.Props.C15
import LLTD.Lemmas.TranslatedEq

namespace LLTD.C15T
open LLTD LLTD.Spec LLTD.TEq

/-- switch_state_session as translated follows the life-cycle (`holdsC15Step`); fuel 2 suffices - the time-out
    self-call goes one level deep (`diverged = false`) - and the tables are left alone -/
theorem step_translated (e : T.Env) (hnow : e.nowS < u64) (a : T.automata) (ev : Int) (hok : AutOk a) (hm : IsSession a)
    (hs : a.current_state < 4) :
    holdsC15Step (timeoutOf X.sessionTimeouts a.current_state) (fsmOfC a) (fsmOfC (T.switch_state_session 2 e a ev).autom) ev e.nowS = true ∧
    (T.switch_state_session 2 e a ev).diverged = false ∧ sameTables a (T.switch_state_session 2 e a ev).autom := by
  obtain ⟨h1, h2, h3⟩ := switch_state_session_eq e hnow a ev hok hm
  refine ⟨?_, h2, h3⟩
  rw [h1]
  exact C15.step (fsmOfC a) hs ev e.nowS hnow

-- non-vacuity: the record rebuilt from the extracted tables meets the hypotheses, and the translated function runs on it
example : IsSession (autOfX X.sessionTable X.sessionTimeouts 1 7) ∧ AutOk (autOfX X.sessionTable X.sessionTimeouts 1 7) := by
  refine ⟨⟨by decide, ?_⟩, ⟨by decide +kernel, by decide +kernel, by decide⟩⟩
  have : timeoutsOfC (autOfX X.sessionTable X.sessionTimeouts 1 7) = X.sessionTimeouts ++ List.replicate 1 0 := by decide
  rw [this]; exact tosEq_pad _ _
example : (T.switch_state_session 2 { nowMs := 7000, nowS := 7 } (autOfX X.sessionTable X.sessionTimeouts 1 7) 2).autom.current_state = 2 := by
  decide +kernel
example : (T.switch_state_session 2 { nowMs := 9000, nowS := 9 } (autOfX X.sessionTable X.sessionTimeouts 3 7) 4).autom.current_state = 1 := by
  decide +kernel

end LLTD.C15T
