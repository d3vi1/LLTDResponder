/-
  C11 — Acknowledgement by the mapper is recognised from the Discover.
-/
import LLTD.Model.Event
import LLTD.Spec.Event
import LLTD.Lemmas.Event

namespace LLTD.C11
open LLTD LLTD.Spec

/-- the scan over `k` list entries from index `i` finds the address iff it is among those entries — wherever it stands -/
theorem scan_contains (img : List Nat) (base : Nat) (our : Mac) :
    ∀ (k i : Nat), (stationScan img base 6 our k i).1 = ((List.range' i k).map (fun j => slice img (base + j * 6) 6)).contains our := by
  intro k
  induction k with
  | zero => intro i; rfl
  | succ k ih =>
    intro i
    rw [stationScan, List.range'_succ, List.map_cons, List.contains_cons, BEq.comm (a := our), ← ih (i + 1)]
    cases slice img (base + i * 6) 6 == our <;> rfl

/-- the classifier's acknowledgement bit = "the own address is among the stations the Discover lists and holds" -/
theorem ack_iff_listed (img : List Nat) (our : Mac) (h : unbe (slice img 34 2) ≠ 0) :
    (ackScan img (some our)).1 = (stationsHeld img).contains our := by
  unfold ackScan
  simp only [X.sizeofDemux_val, X.offDiscCount_val, X.offDiscList_val, X.strideStation_val, Nat.reduceAdd, h, if_false]
  rw [scan_contains, stationCount_min]
  unfold stationsHeld
  simp only [List.range_eq_range']
  -- entry `j`: the scan reads at `36 + j * 6`, the specification at `36 + 6 * j`
  congr 2
  funext j
  congr 1
  omega

/-- the live sessions of a table, as the specification sees them -/
def sessionsOf (tbl : Option Table) : List Sess := match tbl with | some t => (viewOf t).live | none => []

theorem find_live (es : List Entry) (mac : Mac) (gen : Nat) :
    ((es.filter (·.valid)).map sessOf).find? (fun s => s.mac == mac && s.gen == gen) =
      (es.find? (fun e => e.matches mac gen)).map sessOf := by
  simp only [List.find?_map, List.find?_filter, Function.comp_def, sessOf, Entry.matches, Bool.and_assoc, Bool.decide_and,
    Bool.decide_eq_true]

theorem find_sessions (tbl : Option Table) (mac : Mac) (gen : Nat) :
    (sessionsOf tbl).find? (fun s => s.mac == mac && s.gen == gen) = (existingOf tbl mac gen).map sessOf := by
  cases tbl with
  | none => rfl
  | some t => exact find_live t.entries mac gen

/-- a Discover that lists no station acknowledges; otherwise `ack_iff_listed` -/
theorem ack_eq (img : List Nat) (our : Mac) :
    (ackScan img (some our)).1 = (decide (unbe (slice img 34 2) = 0) || (stationsHeld img).contains our) := by
  by_cases h : unbe (slice img 34 2) = 0
  · simp [ackScan, h]
  · rw [ack_iff_listed img our h]; simp [h]

/-- the Discover leaf: the event computed from three facts — no station listed (`d = 0`), own address listed, known under another
    sequence number — meets every clause of the predicate -/
theorem discover_leaf (d : Nat) (listed chg : Bool) (ev : Int)
    (hev : (if (decide (d = 0) || listed) = true then (if chg = true then ((5 : Nat) : Int) else (3 : Nat))
            else (if chg = true then ((4 : Nat) : Int) else (2 : Nat))) = ev) :
    ((decide (ev = 2) || decide (ev = 3) || decide (ev = 4) || decide (ev = 5)) &&
      ((decide (ev = 4) || decide (ev = 5)) == chg) &&
      (if d ≥ 1 then (decide (ev = 3) || decide (ev = 5)) == listed else true)) = true := by
  subst hev
  by_cases hd : d = 0
  · subst hd; revert listed chg; decide
  · rw [if_pos (by omega : d ≥ 1), decide_eq_false hd]; revert listed chg; decide

/-- THE CLASSIFICATION THEOREM: for every frame image, every session table and every own address the event
    returned is the specified one (acknowledging ⇔ listed, changed ⇔ known under another sequence number,
    Reset topology-wide ⇔ broadcast, Hello, nothing for every other opcode) -/
theorem classify (img : List Nat) (tbl : Option Table) (our : Mac) :
    holdsC11 img (sessionsOf tbl) our (deriveCode img tbl (some our)) = true := by
  -- name the event, so that the predicate does not carry a copy of the classifier for each clause
  generalize hev : deriveCode img tbl (some our) = ev
  unfold deriveCode discoverEvent at hev
  unfold holdsC11
  simp only [X.sizeofDemux_val, X.offDiscList_val, X.opReset_val, X.opHello_val, X.opDiscover_val, X.sessTopoReset_val, X.sessReset_val,
    X.sessHello_val, X.sessAcking_val, X.sessAckingChgd_val, X.sessNoack_val, X.sessNoackChgd_val,
    fOpcode_eq, fRealDst_eq, fRealSrc_eq, fSeq_eq, fDiscGen_eq, ack_eq, Nat.reduceAdd] at hev ⊢
  rw [find_sessions]
  -- classifier and predicate are now the same tree over the same conditions; at each leaf `hev` says what the event is
  by_cases h32 : img.length < 32
  · rw [if_pos h32]
  rw [if_neg h32] at hev ⊢
  by_cases h8 : byteAt img 17 = 8
  · rw [if_pos h8] at hev ⊢; exact decide_eq_true hev.symm
  rw [if_neg h8] at hev ⊢
  by_cases h1 : byteAt img 17 = 1
  · rw [if_pos h1] at hev ⊢; exact decide_eq_true hev.symm
  rw [if_neg h1] at hev ⊢
  by_cases h0 : byteAt img 17 = 0
  · rw [if_pos h0] at hev ⊢
    by_cases h36 : img.length < 36
    · rw [if_pos h36]
    rw [if_neg h36] at hev ⊢
    generalize existingOf tbl (slice img 24 6) (unbe (slice img 32 2)) = ex at hev ⊢
    cases ex with
    | none => exact discover_leaf _ _ false ev hev
    | some e => exact discover_leaf _ _ (e.seq != unbe (slice img 30 2)) ev hev
  · rw [if_neg h0] at hev ⊢; exact decide_eq_true hev.symm

/-- non-vacuity: own address in position 0 of a one-station list, exactly filling the frame -/
example : deriveCode ([255,255,255,255,255,255, 2,0,0,0,0,0x11, 0x88,0xd9, 1,0,0,0, 255,255,255,255,255,255, 2,0,0,0,0,0x11, 0,5,
    0,7, 0,1, 2,0xaa,0xbb,0xcc,0xdd,1]) none (some [2,0xaa,0xbb,0xcc,0xdd,1]) = 3 := by decide

end LLTD.C11
