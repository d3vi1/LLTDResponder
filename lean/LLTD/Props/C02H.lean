/-
  C02 — the history form, for EVERY fault schedule: `Sent` (Lemmas/Sends) lists what a reaction can transmit whatever the
  allocator and the transmit path do, `C02.*_wellFormed` judges each shape, the counts are those of C02 / C06.  The record
  invariant is all a history has to keep.
-/
import LLTD.Lemmas.History
import LLTD.Props.C02
import LLTD.Props.C06
import LLTD.Props.C08

namespace LLTD.C02H
open LLTD LLTD.Spec

theorem queryResp_wf (c : Cfg) (st : St) (img : List Nat) (hc : CfgOk c) (hm : c.failMtu = false) (hmac : c.failMac = false)
    (hi : St.Inv st) (him : ImgOk img) : wellFormed c.mac c.mtu (queryResp c st img) = true := by
  unfold queryResp
  generalize hn : min st.sees.length (queryMaxDescs c.mtuEff) = n
  have hlen : (st.sees.take n).length = n := by rw [List.length_take]; omega
  have hfit := query_fits c.mtuEff n (by omega) (by have := mtuEff_ge c hc; omega)
  rw [mtuEff_eq c hc hm] at hfit
  exact C02.query_wellFormed c img _ n _ (st.sees.take n) hc hmac him
    (fun o ho => hi.obs o (List.mem_of_mem_take ho)) hlen hfit (by have := hi.cap; omega)

theorem largeResp_wf (c : Cfg) (img : List Nat) (d : Option (List Nat)) (hc : CfgOk c) (hm : c.failMtu = false) (hmac : c.failMac = false)
    (him : ImgOk img) : wellFormed c.mac c.mtu (largeResp c img d) = true := by
  have hlo := hc.mtuLo
  have hhi := hc.mtuHi
  unfold largeResp
  rw [largePayload_eq c hc hm, respFields_getD]
  generalize d.getD [] = d
  generalize unbe (slice img (X.sizeofDemux + X.offQltlvOffset) 2) = off
  obtain ⟨hpl, hle⟩ := C08.respFields_payload (c.mtu - 34) (by omega) d off
  exact C02.large_wellFormed c _ _ _ _ hc hmac (respDest_length img him) (respFields_lt _ _ _) hpl (by omega)

theorem all_wf (c : Cfg) (g : Glob) (w : World) (st : St) (img : List Nat) (hc : CfgOk c) (hm : c.failMtu = false) (hmac : c.failMac = false)
    (hi : St.Inv st) (him : ImgOk img) :
    ∀ f ∈ sentFrames (parseFrameSt c g w st img).fx, wellFormed c.mac c.mtu f = true := by
  have hs := parseFrameSt_sent c g w st img hc hi.count
  generalize sentFrames (parseFrameSt c g w st img).fx = fs at hs
  intro f hf
  cases hs with
  | none => simp at hf
  | hello =>
    rw [List.mem_singleton.mp hf]
    exact C02.hello_wellFormed c g _ _ _ _ hc hmac (fRealSrc_len img him) (fEthSrc_len img him)
  | emit _ _ h =>
    rcases h f hf with ⟨src, dst, ty, h1, h2, rfl⟩ | rfl
    · exact C02.probe_wellFormed c src dst ty hc hmac h1 h2
    · exact C02.ack_wellFormed c _ hc hmac (cmdSt_inv st img hi him)
  | query => rw [List.mem_singleton.mp hf]; exact queryResp_wf c st img hc hm hmac hi him
  | large d => rw [List.mem_singleton.mp hf]; exact largeResp_wf c img d hc hm hmac him

theorem emit_count (c : Cfg) (w : World) (st : St) (img : List Nat) :
    C06.sendCount (parseEmit c w st img).fx ≤ min (unbe (slice img 32 2)) ((c.mtu - 34) / 14) + 1 :=
  C06.emit_count c w st img

/-- a frame that is no Emit causes at most one transmit -/
theorem nonemit_count (c : Cfg) (g : Glob) (w : World) (st : St) (img : List Nat) (he : ¬ (LLTD.fTos img = 0 ∧ LLTD.fOpcode img = 2)) :
    C06.sendCount (parseFrameSt c g w st img).fx ≤ 1 := by
  rw [parseFrameSt_req]
  cases hr : reqOf img <;> simp only [reactTo]
  case discover =>
    split
    · show C06.sendCount (_ ++ _) ≤ 1
      rw [sendCount_eq, sentFrames_pause, ← sendCount_eq]; exact C02.answerHello_count ..
    · exact Nat.zero_le _
  case emit => exact absurd ((reqOf_emit img).mp hr) he
  case probe => rw [parseProbe_fx]; exact Nat.zero_le _
  case query => exact C02.parseQuery_count ..
  case large => exact C02.parseQueryLargeTlv_count ..
  all_goals exact Nat.zero_le _

theorem step_holds (c : Cfg) (g : Glob) (w : World) (st : St) (img : List Nat)
    (hc : CfgOk c) (hm : c.failMtu = false) (hmac : c.failMac = false) (hi : St.Inv st) (him : ImgOk img) :
    holdsC02Rx (obsOf c g img (parseFrameSt c g w st img).fx) = true := by
  unfold holdsC02Rx
  simp only [obsOf_frame, obsOf_cfg, sends_obsOf]
  have hlen := sendCount_eq (parseFrameSt c g w st img).fx
  rw [List.all_eq_true.mpr (all_wf c g w st img hc hm hmac hi him), Bool.true_and, Bool.and_eq_true]
  constructor
  · by_cases hreq : isRequest img = true
    · rw [hreq, Bool.or_true]
    · have hnr := fun h => hreq ((isRequest_iff img him.len).mpr h)
      have hsil := C02.silent_of_kind c g w st img (fun h => hnr (.inl h)) (fun h => hnr (.inr (.inl h)))
        (fun h => hnr (.inr (.inr (.inl h)))) (fun h => hnr (.inr (.inr (.inr h))))
      rw [hlen] at hsil
      rw [List.eq_nil_of_length_eq_zero hsil]; rfl
  · rw [← hlen]
    by_cases he : isEmit img = true
    · rw [if_pos he, decide_eq_true_eq, parseFrameSt_req, (isEmit_iff img him.len).mp he]
      exact emit_count c w st img
    · rw [if_neg he, decide_eq_true_eq]
      exact nonemit_count c g w st img fun h => he ((isEmit_iff img him.len).mpr ((reqOf_emit img).mpr h))

/-- the attributes (MTU included) changing from frame to frame, every fault schedule -/
theorem history_varying :
    ∀ (items : List (Cfg × Glob × List Nat)) (w : World) (st : St),
      (∀ it ∈ items, CfgOk it.1 ∧ it.1.failMtu = false ∧ it.1.failMac = false ∧ ImgOk it.2.2) → St.Inv st →
      holdsC02 (C05.runObsV w st items) = true :=
  fun items w st hitems hi => run_all' (fun _ st => St.Inv st) _ holdsC02Rx
    (fun c g w st img ⟨hc, hm, hmac, him⟩ hi => ⟨step_holds c g w st img hc hm hmac hi him, parseFrameSt_inv c g w st img hi him⟩)
    items w st hitems hi

/-- THE HISTORY THEOREM: every frame history, every fault schedule -/
theorem history (c : Cfg) (g : Glob) (hc : CfgOk c) (hm : c.failMtu = false) (hmac : c.failMac = false) :
    ∀ (imgs : List (List Nat)) (w : World) (st : St), (∀ img ∈ imgs, ImgOk img) → St.Inv st →
      holdsC02 (C05.runObs c g w st imgs) = true := by
  intro imgs w st himgs hi
  rw [runObs_eq_runObsV]
  exact history_varying _ w st (List.forall_mem_map.mpr fun img h => ⟨hc, hm, hmac, himgs img h⟩) hi

/-- non-vacuity: with every allocation refused nothing is sent, and the predicate still holds -/
example : holdsC02 (C05.runObs { mac := [2, 0, 0, 0, 0, 1], mtu := 576 } {} { failMallocAll := true } {}
    [[255,255,255,255,255,255, 2,0,0,0,0,7, 0x88,0xd9, 1,0,0,0, 255,255,255,255,255,255, 2,0,0,0,0,7, 0,0, 0,1,0,0]]) = true := by
  decide

end LLTD.C02H
