/- C13's tick clause for `automata_tick` as translated, through `TEq.automata_tick_eq`. -/
import LLTD.Props.C13
import LLTD.Lemmas.TranslatedTick

namespace LLTD.C13TT
open LLTD LLTD.Spec LLTD.TEq

/-- C13's tick clause for the translated tick: when the tick (as translated) ends a block, the count follows the formula and
    the next Hello is scheduled no sooner than the load formula for the NEW count allows - whatever its Hello branch did in the same call -/
theorem tick_schedule_translated (e : T.Env) (he : EnvOk e) (m en : T.automata) (t : T.session_table) (p : T.lltd_automata_tick_port)
    (mx : T.mapping_state) (bx : T.band_state) (ltx : Nat)
    (hm : AutOk m) (him : IsMapping m) (hen : EnumOk en) (ht : TickTblOk t) (hb : BandOk bx) (hltx : ltx ≤ e.nowMs) :
    holdsC13Tick (bandOfC bx) (bandOfC (T.automata_tick e m en t p mx bx ltx).enumeration_extra) e.nowMs = true := by
  obtain ⟨h1, _, _⟩ := automata_tick_eq e he m en t p mx bx ltx hm him hen ht hb hltx
  have hE := congrArg TickState.enum h1
  unfold tick at hE
  simp only [] at hE
  have hS := C13.tick_schedule (fsmOfC en) (bandOfC bx)
    (Option.map (fun t => t.expire (e.nowMs / 1000)) (tickMapStage (some (fsmOfC m, some (mapOfC mx))) (some (tableOfC t)) (e.nowMs / 1000)).2)
    ltx .wired e.nowMs hb.2
  rw [hE] at hS
  exact hS

end LLTD.C13TT
