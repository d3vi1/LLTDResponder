/-
  C01 for the translated source (DESIGN.md section 12.10): four TLV writers of lltdTlvOps.c a Hello uses (host id, characteristics,
  IPv6, host name - the longest) stay inside their window: given a buffer with room for the TLV at the offset, the buffer keeps its
  length, every byte before the offset and (host name excepted) every byte behind the TLV is what it was.  `CSem.wr` lengthens the
  list when a store passes the end, so "keeps its length" says that no store did.  What the memory model of tools/c2lean_wire.py
  cannot express (reads past the end, lifetime errors) stays with `C01.frame_safe` / `history_safe` and the sanitizer runs.
-/
import LLTD.Lemmas.TranslatedWireEq

namespace LLTD.C01T
open LLTD LLTD.TWEq

/-- the shape all the equalities have: `pre`, then a TLV of `k + 2` bytes, then what was behind it -/
theorem window (pre tl rest : List Nat) (w0 w1 k : Nat) (b : List Nat) (hb : b = pre ++ (tl ++ rest.drop k)) (htl : tl.length = k + 2)
    (hk : k ≤ rest.length) :
    b.length = (pre ++ w0 :: w1 :: rest).length ∧ b.take pre.length = pre ∧ b.drop (pre.length + (k + 2)) = rest.drop k := by
  subst hb
  refine ⟨?_, ?_, ?_⟩
  · simp [htl]; omega
  · simp
  · rw [← htl, ← List.append_assoc, ← List.length_append]; simp

theorem hostId_in_bounds (base : TW.Env) (c : Cfg) (g : Glob) (pre rest : List Nat) (w0 w1 : Nat) (hc : CfgOk c) (hroom : 6 ≤ rest.length) :
    let b := (TW.setHostIdTLV (envOf c g base) (pre ++ w0 :: w1 :: rest) pre.length).buffer
    b.length = (pre ++ w0 :: w1 :: rest).length ∧ b.take pre.length = pre ∧ b.drop (pre.length + 8) = rest.drop 6 :=
  window pre (tlvHostId c) rest w0 w1 6 _ (setHostIdTLV_eq base c g pre rest w0 w1 hc).1
    (by rw [tlvHostId, tlv_length, ourMac_length c hc]) hroom

theorem characteristics_in_bounds (base : TW.Env) (c : Cfg) (g : Glob) (pre rest : List Nat) (w0 w1 : Nat) (hroom : 4 ≤ rest.length) :
    let b := (TW.setCharacteristicsTLV (envOf c g base) (pre ++ w0 :: w1 :: rest) pre.length).buffer
    b.length = (pre ++ w0 :: w1 :: rest).length ∧ b.take pre.length = pre ∧ b.drop (pre.length + 6) = rest.drop 4 :=
  window pre (tlvCharacteristics c) rest w0 w1 4 _ (setCharacteristicsTLV_eq base c g pre rest w0 w1).1
    (by rw [tlvCharacteristics, tlv_length, be_length]) hroom

theorem ipv6_in_bounds (base : TW.Env) (c : Cfg) (g : Glob) (pre rest : List Nat) (w0 w1 : Nat) (hc : CfgOk c) (hroom : 16 ≤ rest.length) :
    let b := (TW.setIPv6TLV (envOf c g base) (pre ++ w0 :: w1 :: rest) pre.length).buffer
    b.length = (pre ++ w0 :: w1 :: rest).length ∧ b.take pre.length = pre ∧ b.drop (pre.length + 18) = rest.drop 16 :=
  window pre (tlvIpv6 c) rest w0 w1 16 _ (setIPv6TLV_eq base c g pre rest w0 w1 hc).1
    (by rw [tlvIpv6, tlv_length, ipv6_value_length c hc]) hroom

/-- the longest one: the host name takes what the platform reports, at most 32 bytes, whatever the getter returns -/
theorem hostname_in_bounds (env : TW.Env) (pre rest : List Nat) (w0 w1 : Nat) (hroom : 32 ≤ rest.length) :
    let b := (TW.setHostnameTLV env (pre ++ w0 :: w1 :: rest) pre.length).buffer
    b.length = (pre ++ w0 :: w1 :: rest).length ∧ b.take pre.length = pre := by
  have hk : (env.get_hostname.out.take 32).length ≤ 32 := by rw [List.length_take]; omega
  simp only
  rw [(setHostnameTLV_gen pre rest w0 w1 env).1]
  refine ⟨?_, by simp⟩
  simp only [List.length_append, List.length_cons, List.length_drop]
  omega

end LLTD.C01T
