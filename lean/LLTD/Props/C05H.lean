/-
  C05 — the history theorem with the interface's attributes and the process-wide data changing freely from frame to frame.
-/
import LLTD.Props.C05

namespace LLTD.C05H
open LLTD LLTD.Spec

theorem history_varying (own : List Nat) (items : List (Cfg × Glob × List Nat)) (hitems : ∀ it ∈ items, ItemOk own it) (w : World) (hw : NoFault w) :
    holdsC05 own (C05.runObsV w {} items) = true :=
  C05.history_varying own items (fun it h => ⟨(hitems it h).cfg, (hitems it h).mtu, (hitems it h).img⟩) w {} {} hw.noM (rel_abs _ _ rfl)

end LLTD.C05H
