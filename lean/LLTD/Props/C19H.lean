/-
  C19 — the predicate form over histories.  With the specification following the implementation's cap (dom = 1024) the record
  refines the specification state UNCONDITIONALLY (`Ref1024`: no overflow case), so on a fault-free platform the ledger is what
  the specification state accounts for: the per-interface record, one node per observation not yet reported, the icon cached
  since the last Reset — `expectedLive` / `expectedBytes`, which `./check C19` compares with the port's ledger after every frame.
-/
import LLTD.Props.C10H
import LLTD.Props.C19

namespace LLTD.C19H
open LLTD LLTD.Spec

structure Ref1024 (st : St) (s : SpecSt) : Prop where
  icon : s.iconCache = st.icon
  pend : s.pending = st.sees.map toDesc

theorem ref1024_init : Ref1024 {} {} := ⟨rfl, rfl⟩

theorem ref1024_step (c : Cfg) (g : Glob) (w : World) (st : St) (img : List Nat) (s : SpecSt)
    (hc : CfgOk c) (hmac : c.failMac = false) (hw : NoFault w) (hi : St.Inv st) (him : ImgOk img) (hr : Ref1024 st s) :
    Ref1024 (parseFrameSt c g w st img).st
      (specStep c.mac 1024 g s img (reportedOf (obsOf c g img (parseFrameSt c g w st img).fx).fx)) := by
  have h := rest_step True c g w st img s 1024 hc hmac hw hi him (Nat.le_refl _) (fun _ => rfl) ⟨hr.icon, fun _ => hr.pend⟩
  exact ⟨h.1, h.2 (.inl trivial)⟩

/-- what the specification state accounts for equals what the record retains -/
theorem expected_eq (st : St) (s : SpecSt) (hr : Ref1024 st s) :
    expectedLive [s] = 1 + retained st ∧ expectedBytes X.stateRecBytes X.nodeBytes [s] = X.stateRecBytes + retainedBytes st := by
  unfold expectedLive expectedBytes retained retainedBytes iconBlocks iconBytes
  simp only [List.foldl_cons, List.foldl_nil, hr.icon, hr.pend, List.length_map]
  cases st.icon <;> simp <;> omega

/-- over every history the record refines the specification state folded over the model's own trace, and the ledger stays
    accounted for -/
theorem history_spec (c : Cfg) (g : Glob) (hc : CfgOk c) (hmac : c.failMac = false) :
    ∀ (imgs : List (List Nat)) (w : World) (st : St) (s : SpecSt), (∀ img ∈ imgs, ImgOk img) → NoFault w → St.Inv st → Ref1024 st s →
      Accounted w st 1 X.stateRecBytes →
      Ref1024 (C19.runSt c g (w, st) imgs).2 (C10H.specFinal c.mac 1024 s (C05.runObs c g w st imgs)) ∧
        Accounted (C19.runSt c g (w, st) imgs).1 (C19.runSt c g (w, st) imgs).2 1 X.stateRecBytes := by
  intro imgs
  induction imgs with
  | nil => intro w st s _ _ _ hr ha; exact ⟨hr, ha⟩
  | cons img rest ih =>
    intro w st s himgs hw hi hr ha
    have him := himgs img (List.mem_cons_self ..)
    exact ih _ _ _ (fun i h => himgs i (List.mem_cons_of_mem _ h)) (nf_of_sched hw (parseFrameSt_sched c g w st img))
      (parseFrameSt_inv c g w st img hi him) (ref1024_step c g w st img s hc hmac hw hi him hr)
      (C19.balance c g w st img 1 X.stateRecBytes hc him.len ha)

/-- THE LEDGER THEOREM: after every frame of every history the ledger is exactly what the specification state accounts for -/
theorem history (c : Cfg) (g : Glob) (hc : CfgOk c) (hmac : c.failMac = false) :
    ∀ (imgs : List (List Nat)) (w : World) (st : St) (s : SpecSt), (∀ img ∈ imgs, ImgOk img) → NoFault w → St.Inv st → Ref1024 st s →
      Accounted w st 1 X.stateRecBytes →
      let fin := C19.runSt c g (w, st) imgs
      ∃ s', Ref1024 fin.2 s' ∧ fin.1.live = expectedLive [s'] ∧ fin.1.bytes = expectedBytes X.stateRecBytes X.nodeBytes [s'] := by
  intro imgs w st s himgs hw hi hr ha
  obtain ⟨hr', ha'⟩ := history_spec c g hc hmac imgs w st s himgs hw hi hr ha
  exact ⟨_, hr', (expected_eq _ _ hr').1 ▸ ha'.1, (expected_eq _ _ hr').2 ▸ ha'.2⟩

end LLTD.C19H
