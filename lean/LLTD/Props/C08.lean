/-
  C08 — Large properties are retrievable byte-exactly by offset.
-/
import LLTD.Lemmas.Bytes
import LLTD.Lemmas.Handlers
import LLTD.Spec.Block

namespace LLTD.C08
open LLTD LLTD.Spec

/-- what a mapper has after `fuel` rounds: the next `fuel * p` bytes -/
theorem reassemble_eq_take (p : Nat) (data : List Nat) :
    ∀ (fuel off : Nat), reassemble p data fuel off = (data.drop off).take (fuel * p) := by
  intro fuel
  induction fuel with
  | zero => intro off; simp [reassemble]
  | succ k ih =>
    intro off
    simp only [reassemble, chunk, decide_eq_true_eq]
    split
    · next h =>
      have hl : ((data.drop off).take p).length = p := by simp [List.length_take, List.length_drop]; omega
      rw [hl, ih, ← List.drop_drop, Nat.succ_mul, Nat.add_comm (k * p) p, List.take_add]
    · next h =>
      have hle : (data.drop off).length ≤ p := by simp [List.length_drop]; omega
      rw [List.take_of_length_le hle, List.take_of_length_le (Nat.le_trans hle (Nat.le_mul_of_pos_left p (Nat.succ_pos k)))]

/-- a mapper that starts at an offset and advances by the returned length until `more` clears reassembles exactly the
    platform's bytes from there — every data length, every per-frame payload P > 0 -/
theorem reassemble_from (p : Nat) (hp : 0 < p) (data : List Nat) :
    ∀ (fuel off : Nat), data.length < off + fuel * p → reassemble p data fuel off = data.drop off := by
  intro fuel off h
  rw [reassemble_eq_take, List.take_of_length_le (by simp [List.length_drop]; omega)]

theorem reassemble_all (p : Nat) (hp : 0 < p) (data : List Nat) : reassemble p data (data.length + 1) 0 = data := by
  have := reassemble_from p hp data (data.length + 1) 0 (by
    have : data.length + 1 ≤ (data.length + 1) * p := Nat.le_mul_of_pos_right _ hp
    omega)
  simpa using this

theorem or_more (p : Nat) (h : p < 16384) : (p ||| 0x8000) % u16 = p + 32768 := by
  have := or_more_bit p true h
  simp only [if_true] at this
  rw [this]; unfold u16; omega

/-- the length field and the number of payload bytes are exactly the specification's chunk -/
theorem fields_spec (p : Nat) (hp : p < 16384) (data : List Nat) (off : Nat) :
    let r := respFields p (some data) off
    r.1 = (chunk p data off).1.length ∧ r.2 % 16384 = r.1 ∧ (decide (r.2 ≥ 32768)) = (chunk p data off).2 ∧
    (data.drop off).take r.1 = (chunk p data off).1 := by
  simp only [respFields, optLen, chunk, Option.isNone_some, Bool.false_eq_true, false_or]
  -- the four regimes of respFields: no data, more remain, last chunk, offset at or past the end
  by_cases h0 : data.length = 0
  · have : data = [] := List.eq_nil_of_length_eq_zero h0
    subst this
    simp
  · simp only [h0, if_false]
    by_cases h1 : data.length > off + p
    · simp only [h1, if_true, or_more p hp]
      refine ⟨?_, by omega, by simp, trivial⟩
      simp [List.length_take, List.length_drop]; omega
    · simp only [h1, if_false]
      by_cases h2 : data.length > off
      · have hlt : data.length - off < u16 := by unfold u16; omega
        simp only [h2, if_true, Nat.mod_eq_of_lt hlt]
        refine ⟨?_, by omega, by simp; omega, ?_⟩
        · simp [List.length_take, List.length_drop]; omega
        · rw [List.take_of_length_le (by simp [List.length_drop]), List.take_of_length_le (by simp [List.length_drop]; omega)]
      · simp only [h2, if_false]
        have : data.drop off = [] := List.drop_eq_nil_of_le (by omega)
        simp [this]

/-- the payload written has the length the length field announces, at most `p` -/
theorem respFields_payload (p : Nat) (hp : p < 16384) (data : List Nat) (off : Nat) :
    (slice data off (respFields p (some data) off).1).length = (respFields p (some data) off).2 % 16384 ∧
      (respFields p (some data) off).2 % 16384 ≤ p := by
  obtain ⟨f1, f2, -, f4⟩ := fields_spec p hp data off
  refine ⟨?_, f2 ▸ (respFields_bounds p (some data) off).1⟩
  unfold slice; rw [f4, f2, ← f1]

/-- a request with sequence number zero is not answered and changes nothing -/
theorem seq_zero_ignored (c : Cfg) (g : Glob) (w : World) (st : St) (img : List Nat) (h : fSeq img = 0) :
    parseQueryLargeTlv c g w st img = { st := st, w := w, fx := [] } := by
  rw [parseQueryLargeTlv_eq, if_pos h]

/-- the scan of the zero-initialised 64-byte buffer stops at the end of a string of `m` non-NUL UCS-2 characters -/
theorem scan_spec (buf : List Nat) (m : Nat) (hm : m ≤ 32)
    (hnz : ∀ k, k < m → ¬(byteAt buf (2 * k) = 0 ∧ byteAt buf (2 * k + 1) = 0))
    (hz : m < 32 → byteAt buf (2 * m) = 0 ∧ byteAt buf (2 * m + 1) = 0) :
    ∀ (fuel j : Nat), j ≤ m → 32 ≤ fuel + j → hwidScan buf fuel (2 * j) = 2 * m := by
  intro fuel
  induction fuel with
  | zero => intro j hj hf; simp only [hwidScan]; omega
  | succ k ih =>
    intro j hj hf
    simp only [hwidScan]
    by_cases hlt : 2 * j + 1 < 64
    · rw [if_pos hlt]
      by_cases hpair : byteAt buf (2 * j) = 0 ∧ byteAt buf (2 * j + 1) = 0
      · rw [if_pos hpair]
        by_cases hjm : j < m
        · exact absurd hpair (hnz j hjm)
        · omega
      · rw [if_neg hpair]
        -- a pair that is not NUL lies before the string's end
        have hjm : j < m := Nat.lt_of_le_of_ne hj fun e => hpair (e ▸ hz (by omega))
        exact ih (j + 1) hjm (by omega)
    · rw [if_neg hlt]
      omega

/-- the hardware identifier the core serves is the platform's, when that is a UCS-2LE string (port contract) -/
theorem hwid_exact (g : Glob) (h : hwIdWellFormed g.hwid = true) : hwidData g = g.hwid := by
  simp only [hwIdWellFormed, Bool.and_eq_true, decide_eq_true_eq, beq_iff_eq, List.all_eq_true, List.mem_range] at h
  obtain ⟨⟨hlen, heven⟩, hnz⟩ := h
  unfold hwidData
  simp only []
  rw [List.take_of_length_le hlen]
  have hb := byteAt_pad g.hwid (64 - g.hwid.length)
  -- the scan over the zero-padded 64-byte copy stops at the string's own length: `scan_spec` at m = length / 2
  have key := scan_spec (g.hwid ++ zeros (64 - g.hwid.length)) (g.hwid.length / 2) (by omega)
    (fun k hk hc => by
      rw [hb, hb, if_pos (by omega), if_pos (by omega)] at hc
      have := hnz k hk
      rw [hc.1, hc.2] at this
      exact Bool.noConfusion this)
    (fun _ => by rw [hb, hb, if_neg (by omega), if_neg (by omega)]; exact ⟨rfl, rfl⟩)
    32 0 (by omega) (by omega)
  rw [show 2 * (g.hwid.length / 2) = g.hwid.length by omega] at key
  rw [key, List.take_left' rfl]

example : reassemble 3 [1, 2, 3, 4, 5, 6, 7] 8 0 = [1, 2, 3, 4, 5, 6, 7] := by decide
example : respFields 5 (some [1, 2, 3, 4, 5, 6, 7, 8]) 0 = (5, 5 + 32768) := by decide

end LLTD.C08
