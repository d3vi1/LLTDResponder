/-
  C07 / C08 for the translated source (DESIGN.md section 12.10): `setLltdHeader` of lltdWire.c with the arguments `parseQuery` /
  `sendLargeTlvResponse` (lltdBlock.c) pass on a zeroed buffer stores the 32-byte demultiplex header the model's `queryFrame` /
  `largeFrame` begin with (the frames C07's and C08's decoding theorems are about), leaves the rest of the buffer untouched and
  returns 32, the offset the upper header is written at.  What follows the header (count / length field, descriptors, payload) is
  written by lltdBlock.c itself and stays hand-modelled.
-/
import LLTD.Lemmas.TranslatedWireEq

namespace LLTD.C07T
open LLTD LLTD.TWEq

theorem response_header_translated (env : TW.Env) (c : Cfg) (hc : CfgOk c) (dest rest : List Nat) (seq op : Nat)
    (hd : dest.length = 6) (hseq : seq < 65536) (hop : op < 256) :
    (TW.setLltdHeader env (List.replicate 32 0 ++ rest) c.ourMac dest seq op X.tosDiscovery).buffer
      = lltdHeader 0 dest c.ourMac dest c.ourMac seq op X.tosDiscovery ++ rest
    ∧ (TW.setLltdHeader env (List.replicate 32 0 ++ rest) c.ourMac dest seq op X.tosDiscovery).ret = 32 := by
  have hm := ourMac_length c hc
  rw [setLltdHeader_buffer, setLltdHeader_ret]
  exact setLltdHeaderEx_zero env rest c.ourMac dest c.ourMac dest seq op X.tosDiscovery hm hd hm hd hseq hop (by decide)

/-- the QueryResp the model builds begins with what the translated header writer stores -/
theorem queryFrame_header (env : TW.Env) (c : Cfg) (hc : CfgOk c) (img : List Nat) (seq num : Nat) (more : Bool) (descs : List Nat)
    (hd : (respDest img).length = 6) (hseq : seq < 65536) :
    queryFrame c img seq num more descs
      = (TW.setLltdHeader env (List.replicate 32 0) c.ourMac (respDest img) seq X.opQueryResp X.tosDiscovery).buffer
        ++ be 2 (num ||| (if more then 0x8000 else 0)) ++ descs := by
  have h := (response_header_translated env c hc (respDest img) [] seq X.opQueryResp hd hseq (by decide)).1
  simp only [List.append_nil] at h
  rw [h]; rfl

/-- the QueryLargeTlvResp the model builds begins with what the translated header writer stores -/
theorem largeFrame_header (env : TW.Env) (c : Cfg) (hc : CfgOk c) (dest : Mac) (seq lenField : Nat) (payload : List Nat)
    (hd : dest.length = 6) (hseq : seq < 65536) :
    largeFrame c dest seq lenField payload
      = (TW.setLltdHeader env (List.replicate 32 0) c.ourMac dest seq X.opQltlvResp X.tosDiscovery).buffer ++ be 2 lenField ++ payload := by
  have h := (response_header_translated env c hc dest [] seq X.opQltlvResp hd hseq (by decide)).1
  simp only [List.append_nil] at h
  rw [h]; rfl

end LLTD.C07T
