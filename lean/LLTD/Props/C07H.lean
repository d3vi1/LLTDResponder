/-
  C07 — the history form, on a fault-free platform.  The specification state (observations recorded and not yet reported) is
  folded over what the mapper actually READS in the model's QueryResp frames with the independent decoder
  (`decodeQueryResp_take`); `Ref` says its pending list is the record's, so the QueryResp lists a prefix of it.
-/
import LLTD.Lemmas.History

namespace LLTD.C07H
open LLTD LLTD.Spec

theorem step_holds (c : Cfg) (g : Glob) (w : World) (st : St) (img : List Nat) (s : SpecSt)
    (hc : CfgOk c) (hm : c.failMtu = false) (hmac : c.failMac = false) (hw : NoFault w) (hi : St.Inv st) (him : ImgOk img) (hr : Ref st s) :
    holdsC07Rx s (obsOf c g img (parseFrameSt c g w st img).fx) = true := by
  unfold holdsC07Rx
  simp only [obsOf_frame, obsOf_cfg, sends_obsOf]
  refine guarded (fun hq => ?_) fun hq => ?_
  · rw [List.isEmpty_iff]
    exact no_queryResp c g w st img hc hi him (Bool.eq_false_iff.mp hq)
  · cases hov : s.overflow
    · -- the QueryResp lists the first min(pending, capacity) observations of the record, which are the specification's
      rw [if_neg Bool.false_ne_true, parseFrameSt_req, (isQuery_iff img him.len).mp hq, reactTo, parseQuery_ok c w st img hc hi.count (malloc_nf w _ hw) _ rfl,
        queryMaxDescs_eq c hc hm]
      generalize hn : min st.sees.length ((c.mtu - 34) / 20) = n
      have hd := decodeQueryResp_take c img (LLTD.fSeq img) n (decide (st.sees.length > n)) st hc him hi (by omega)
      simp only [sentFrames_send, hd, Nat.mod_eq_of_lt (fSeq_lt img him), spec_fSeq, ourMac_eq c hmac,
        hr.pend hov, List.length_map, List.map_take, subMultiset_take, beq_self_eq_true, Bool.true_and, Bool.and_true]
      rw [← hn]; simp [respDest_spec]
    · rfl

/-- the interface's attributes (MTU included) and the process-wide data changing freely from frame to frame -/
theorem history_varying (own : List Nat) (items : List (Cfg × Glob × List Nat)) (hitems : ∀ it ∈ items, ItemOk own it) (w : World) (hw : NoFault w) :
    holdsC07 own (C05.runObsV w {} items) = true :=
  fresh_historyV own holdsC07Rx (ItemOk own) (fun _ h => h) (fun c g w st img s _ => step_holds c g w st img s) items hitems w hw

theorem history (c : Cfg) (g : Glob) (hc : CfgOk c) (hm : c.failMtu = false) (hmac : c.failMac = false)
    (imgs : List (List Nat)) (himgs : ∀ img ∈ imgs, ImgOk img) (w : World) (hw : NoFault w) :
    holdsC07 c.mac (C05.runObs c g w {} imgs) = true :=
  runObs_eq_runObsV c g imgs w {} ▸ history_varying c.mac _ (itemOk_const c g hc hm hmac imgs himgs) w hw

/-- non-vacuity: a Probe for this station then a Query from the mapper, at MTU 576 — the model's trace satisfies the predicate and
    the QueryResp lists one observation -/
example :
    let own := [2, 0xaa, 0xbb, 0xcc, 0xdd, 1]
    let c : Cfg := { mac := own, mtu := 576 }
    let probe := [2,0xaa,0xbb,0xcc,0xdd,1, 2,0,0,0,0,9, 0x88,0xd9, 1,0,0,4] ++ own ++ [2,0,0,0,0,9, 0,0] ++ List.replicate 544 0
    let query := [2,0xaa,0xbb,0xcc,0xdd,1, 2,0,0,0,0,7, 0x88,0xd9, 1,0,0,6] ++ own ++ [2,0,0,0,0,7, 0,5] ++ List.replicate 544 0
    ((C05.runObs c {} {} {} [probe, query]).map (fun r => reportedOf r.fx)).map List.length = [0, 1] := by decide

/-- the predicate `./check C07` evaluates (`holdsC07F`: a Query may go unanswered while the platform refuses memory, nothing may be
    lost) is the strict one on every trace without such a refusal - so `history` / `history_varying` are statements about it -/
theorem holdsC07F_strict (own : List Nat) (t : List RxObs) (h : ∀ r ∈ t, r.allocFault = false) : holdsC07F own t = holdsC07 own t := by
  unfold holdsC07F holdsC07 specStates
  have hmem : ∀ p ∈ specStatesDom own 300 {} t, p.2.allocFault = false := fun p hp =>
    h p.2 (by rw [← specStatesDom_snd own 300 t {}]; exact List.mem_map_of_mem hp)
  generalize specStatesDom own 300 {} t = l at hmem
  induction l with
  | nil => rfl
  | cons p ps ih =>
    rw [List.all_cons, List.all_cons, ih fun q hq => hmem q (List.mem_cons_of_mem _ hq), hmem p (List.mem_cons_self ..)]
    rfl

end LLTD.C07H
