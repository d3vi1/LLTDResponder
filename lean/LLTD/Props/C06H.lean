/-
  C06 — the history form, on a fault-free platform with receive buffers of MTU size.  The bound clause of `holdsC06Rx` is
  `C06.emit_bound`; the exact clause (the Emit of the active mapper, descriptors inside the frame, kinds 0 / 1) is `C06.emit_exact`
  read through the refinement `Ref`: the specification's active mapper is the record's, so the ACK goes to the addresses the
  specification names.
-/
import LLTD.Lemmas.History
import LLTD.Props.C06

namespace LLTD.C06H
open LLTD LLTD.Spec

theorem flatMap_ext_mem {α β} (l : List α) (f g : α → List β) (h : ∀ x ∈ l, f x = g x) : l.flatMap f = l.flatMap g := by
  rw [List.flatMap_def, List.flatMap_def, List.map_congr_left h]

/-- the ACK sits after the last descriptor's Probe -/
theorem flat_ack (c : Cfg) (st : St) (img : List Nat) (n : Nat) :
    ∀ k, k ≤ n → (List.range k).flatMap (C06.descFx c st img n) =
      (List.range k).flatMap (fun i => [Fx.sleep (byteAt img (35 + 14 * i)),
        Fx.send true c.idx (C06.probeFrame c (slice img (36 + 14 * i) 6) (slice img (42 + 14 * i) 6) (byteAt img (34 + 14 * i)))]) ++
      (if k = n ∧ 1 ≤ n then [Fx.send true c.idx (C06.ackFrame c st)] else []) := by
  intro k
  induction k with
  | zero => intro _; have : ¬ (0 = n ∧ 1 ≤ n) := by omega
            simp [this]
  | succ k ih =>
    intro hk
    rw [List.range_succ, List.flatMap_append, List.flatMap_append, ih (by omega)]
    have h1 : ¬ (k = n ∧ 1 ≤ n) := by omega
    simp only [h1, if_false, List.append_nil, List.flatMap_cons, List.flatMap_nil, C06.descFx]
    by_cases hl : k + 1 = n
    · have h2 : (k + 1 = n ∧ 1 ≤ n) := ⟨hl, by omega⟩
      simp [hl, h2]
    · simp [hl]

theorem step_holds (c : Cfg) (g : Glob) (w : World) (st : St) (img : List Nat) (s : SpecSt)
    (hc : CfgOk c) (hm : c.failMtu = false) (hmac : c.failMac = false) (hw : NoFault w) (hi : St.Inv st) (him : ImgOk img)
    (hlen : img.length = c.mtu) (hr : Ref st s) :
    holdsC06Rx s (obsOf c g img (parseFrameSt c g w st img).fx) = true := by
  have hown := ourMac_eq c hmac
  unfold holdsC06Rx
  simp only [obsOf_frame, obsOf_cfg, sends_obsOf]
  refine guarded (fun _ => rfl) fun hq => ?_
  · rw [obsOf_fx, parseFrameSt_req, (isEmit_iff img him.len).mp hq, reactTo, ← sendCount_eq,
      decide_eq_true (C06.emit_bound c w st img), Bool.true_and]
    cases hmap : s.mapper with
    | none => rfl
    | unknown => rfl
    | active m a =>
      obtain ⟨hk, rfl, rfl⟩ := active_of_rel (hmap ▸ hr.mapper)
      simp only []
      refine ite_eq_right_iff.mpr fun hcond => ?_
      · -- the Emit of the active mapper, its descriptors inside the frame and of kinds 0 / 1
        simp only [Bool.and_eq_true, decide_eq_true_eq, List.all_eq_true, emitDescs, List.length_map, List.length_range] at hcond
        obtain ⟨⟨⟨_, hn1⟩, hfit⟩, hkinds⟩ := hcond
        have hk' : ∀ i < unbe (slice img 32 2), byteAt img (34 + 14 * i) ≤ 1 := fun i hi' =>
          List.forall_mem_map.mp hkinds i (List.mem_range.mpr hi')
        have hex := (C06.emit_exact c w st img hc hm (by omega) ((C06.noFault_iff w).mpr hw) (by omega) hk').1
        rw [setActive_of_known (st := { st with seq := LLTD.fSeq img }) _ _ hk] at hex
        rw [hex, flat_ack c _ img _ _ (Nat.le_refl _), if_pos ⟨rfl, hn1⟩, C06.ackFrame_spec, hown, ← spec_fSeq]
        simp only [List.map_append, List.map_cons, List.map_nil, toObs, List.map_flatMap]
        unfold emitDescs
        rw [List.flatMap_map]
        exact beq_iff_eq.mpr (congrArg (· ++ _) (flatMap_ext_mem _ _ _ fun i hi' => by
          rw [C06.probeFrame_spec c _ _ _ (hk' i (List.mem_range.mp hi')), hown]; rfl))

/-- THE HISTORY THEOREM with the attributes changing from frame to frame (each image as long as the MTU current at that frame) -/
theorem history_varying (own : List Nat) (items : List (Cfg × Glob × List Nat))
    (hitems : ∀ it ∈ items, ItemOk own it ∧ it.2.2.length = it.1.mtu) (w : World) (hw : NoFault w) :
    holdsC06 own (C05.runObsV w {} items) = true :=
  fresh_historyV own holdsC06Rx (fun it => ItemOk own it ∧ it.2.2.length = it.1.mtu) (fun _ h => h.1)
    (fun c g w st img s hq hc hm hmac hw hi him => step_holds c g w st img s hc hm hmac hw hi him hq.2) items hitems w hw

theorem history (c : Cfg) (g : Glob) (hc : CfgOk c) (hm : c.failMtu = false) (hmac : c.failMac = false)
    (imgs : List (List Nat)) (himgs : ∀ img ∈ imgs, ImgOk img ∧ img.length = c.mtu) (w : World) (hw : NoFault w) :
    holdsC06 c.mac (C05.runObs c g w {} imgs) = true := by
  rw [runObs_eq_runObsV]
  exact history_varying c.mac _ (List.forall_mem_map.mpr fun img h => ⟨⟨hc, hm, hmac, rfl, (himgs img h).1⟩, (himgs img h).2⟩) w hw

end LLTD.C06H
