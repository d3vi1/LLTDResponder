/-
  C10 — Probes emitted by one responder are observed by a peer responder.
  The emitting half (C06: what sendProbeMsg puts on the wire) composed with the observing half (C07: what
  parseProbe records): they agree on which header field names the addressee.
-/
import LLTD.Props.C07

namespace LLTD.C10
open LLTD

/-- the fields the observing half reads from a frame built by the emitting half -/
theorem header_fields (resv : Nat) (ed es rd rs : Mac) (seq op tos : Nat) (rest : List Nat)
    (h1 : ed.length = 6) (h2 : es.length = 6) (h3 : rd.length = 6) (h4 : rs.length = 6) :
    let f := lltdHeader resv ed es rd rs seq op tos ++ rest
    fEthDst f = ed ∧ fEthSrc f = es ∧ fRealDst f = rd ∧ fRealSrc f = rs ∧ fOpcode f = op ∧ fTos f = tos := by
  obtain ⟨a, b, c, d, e, f, _⟩ := decodeBase_fields _ _ (@decodeBase_lltdHeader resv ed es rd rs seq op tos rest h1 h2 h3 h4)
  exact ⟨a, b, c, d, e, f⟩

/-- what the observing half reads in a Probe / Train of responder `a`, whatever follows it in the receive buffer -/
theorem probeFrame_fields (a : Cfg) (src dst : Mac) (ty : Nat) (tail : List Nat) (ha : CfgOk a) (hs : src.length = 6) (hd : dst.length = 6) :
    fEthSrc (C06.probeFrame a src dst ty ++ tail) = src ∧ fRealDst (C06.probeFrame a src dst ty ++ tail) = dst ∧
      fRealSrc (C06.probeFrame a src dst ty ++ tail) = a.ourMac ∧ reqOf (C06.probeFrame a src dst ty ++ tail) = .probe ∧
      (C06.probeFrame a src dst ty ++ tail).length = 32 + tail.length := by
  have hm := ourMac_length a ha
  have hf := header_fields 0 dst src dst a.ourMac 0 (if ty = 1 then X.opProbe else X.opTrain) X.tosDiscovery tail hd hs hd hm
  simp only [] at hf
  obtain ⟨-, f2, f3, f4, f5, f6⟩ := hf
  rw [show C06.probeFrame a src dst ty = lltdHeader 0 dst src dst a.ourMac 0 (if ty = 1 then X.opProbe else X.opTrain) X.tosDiscovery
    from rfl]
  refine ⟨f2, f3, f4, (reqOf_probe _).mpr ⟨f6, ?_⟩, ?_⟩
  · rw [f5]; by_cases h : ty = 1 <;> simp [h]
  · rw [List.length_append, lltdHeader_length hd hs hd hm]

/-- THE PEER THEOREM: the Probe/Train that responder A emits for a descriptor whose destination is responder B
    is, when delivered unmodified into B's receive buffer, recorded by B — with A as real source, the descriptor's
    source as Ethernet source — or was recorded already under that very key -/
theorem peer_records (a b : Cfg) (w : World) (stB : St) (src : Mac) (ty : Nat) (tail : List Nat)
    (ha : CfgOk a) (hb : CfgOk b) (hma : a.failMac = false) (hmb : b.failMac = false) (hsrc : src.length = 6)
    (hroom : stB.count < 1024) (hm : (w.malloc X.nodeBytes).2 = true) :
    let img := C06.probeFrame a src b.mac ty ++ tail
    ∃ o ∈ (parseProbe b w stB img).st.sees, o.realSrc = a.mac ∧ o.src = src := by
  have hoa := ourMac_eq a hma
  have hob := ourMac_eq b hmb
  obtain ⟨f2, f3, f4, -, -⟩ := probeFrame_fields a src b.mac ty tail ha hsrc hb.mac6
  simp only []
  generalize C06.probeFrame a src b.mac ty ++ tail = img at *
  have hus : fRealDst img = b.ourMac := by rw [f3, hob]
  by_cases hdup : stB.sees.any (fun p => (C07.obsOfFrame img).src == p.src && (C07.obsOfFrame img).realSrc == p.realSrc) = true
  · -- already recorded under this key
    have := (C07.record_dup b w stB img hdup).1
    rw [this]
    rw [List.any_eq_true] at hdup
    obtain ⟨p, hp, hk⟩ := hdup
    simp only [C07.obsOfFrame, Bool.and_eq_true, beq_iff_eq] at hk
    exact ⟨p, hp, by rw [← hk.2, f4, hoa], by rw [← hk.1, f2]⟩
  · simp only [Bool.not_eq_true] at hdup
    have := (C07.record_new b w stB img hus hroom hm hdup).1
    rw [this]
    exact ⟨C07.obsOfFrame img, by simp, by simp [C07.obsOfFrame, f4, hoa], by simp [C07.obsOfFrame, f2]⟩

/-- the emitting half names the descriptor's destination — not the mapper — as real destination
    (the disagreement repaired in beda968: before, B's filter `real destination = own address` never matched) -/
theorem emitted_real_destination (a : Cfg) (src dst : Mac) (ty : Nat) (ha : CfgOk a) (hs : src.length = 6) (hd : dst.length = 6) :
    fRealDst (C06.probeFrame a src dst ty) = dst ∧ fRealSrc (C06.probeFrame a src dst ty) = a.ourMac := by
  obtain ⟨-, f3, f4, -, -⟩ := probeFrame_fields a src dst ty [] ha hs hd
  rw [List.append_nil] at f3 f4
  exact ⟨f3, f4⟩

/-- a recorded observation stays recorded under every later Probe/Train (only a Query or a Reset removes it) -/
theorem stays_recorded (b : Cfg) (w : World) (st : St) (img : List Nat) (o : Obs) (h : o ∈ st.sees) :
    o ∈ (parseProbe b w st img).st.sees :=
  parseProbe_cases (P := fun r => o ∈ r.st.sees) b w st img (fun _ => h) (fun _ _ _ => h) (fun _ _ _ _ => h)
    (fun _ _ _ _ => List.mem_cons_of_mem _ h)

/-- and the next Query lists it when all pending observations fit one response (`C07.query`) -/
theorem listed_by_query (b : Cfg) (w : World) (st : St) (img : List Nat) (hc : CfgOk b) (hi : St.Inv st)
    (hm : (w.malloc b.mtuEff).2 = true) (hfew : st.sees.length ≤ queryMaxDescs b.mtuEff) :
    (parseQuery b w st img).fx =
      [Fx.send ((w.malloc b.mtuEff).1.send).2 b.idx (queryFrame b img (fSeq img) st.sees.length false (st.sees.flatMap obsWire))] := by
  have h := (C07.query b w st img hc hi hm).1
  rwa [Nat.min_eq_left hfew, List.take_length, decide_eq_false (Nat.lt_irrefl _)] at h

example : CfgOk { mac := [2, 0xaa, 0, 0, 0, 1], mtu := 1500 } ∧ CfgOk { mac := [2, 0xaa, 0, 0, 0, 2], mtu := 576 } :=
  ⟨⟨rfl, rfl, rfl, rfl, by decide, by decide⟩, ⟨rfl, rfl, rfl, rfl, by decide, by decide⟩⟩

end LLTD.C10
