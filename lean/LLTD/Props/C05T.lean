/-
  C05 for the translated source (DESIGN.md section 12.10): `mapper_matches` and `set_active_mapper` of lltdBlock.c, through which
  every "is this the active mapper?" / "install the mapper" decision goes, over the bytes of the per-interface record: with no
  mapper known every station matches; with one known exactly its real address matches (all six bytes); an established mapper is
  never replaced and not a byte of the record changes; without one exactly the two addresses and the flag are stored.
-/
import LLTD.Lemmas.TranslatedMapperEq

namespace LLTD.C05T
open LLTD LLTD.TMapEq

theorem matches_translated (env : TW.Env) (b : List Nat) (st : St) (rs : Mac) (h : Enc b st) (hrs : rs.length = 6) :
    (TW.mapper_matches env b rs).ret = mapperMatches st rs := mapper_matches_eq env b st rs h hrs

/-- one mapper at a time: while a mapper is established, a station with any other real address is not it -/
theorem stranger_refused_translated (env : TW.Env) (b : List Nat) (st : St) (rs : Mac) (h : Enc b st) (hrs : rs.length = 6)
    (hk : st.known = true) (hne : st.mapperReal ≠ rs) : (TW.mapper_matches env b rs).ret = false := by
  rw [mapper_matches_eq env b st rs h hrs]
  simp [mapperMatches, hk, hne]

theorem mapper_accepted_translated (env : TW.Env) (b : List Nat) (st : St) (h : Enc b st) (h6 : st.mapperReal.length = 6) :
    (TW.mapper_matches env b st.mapperReal).ret = true := by
  rw [mapper_matches_eq env b st _ h h6]
  simp [mapperMatches]

theorem fresh_accepts_translated (env : TW.Env) (b : List Nat) (st : St) (rs : Mac) (h : Enc b st) (hrs : rs.length = 6)
    (hk : st.known = false) : (TW.mapper_matches env b rs).ret = true := by
  rw [mapper_matches_eq env b st rs h hrs]
  simp [mapperMatches, hk]

/-- installing a mapper: the record afterwards encodes the model's `setActiveMapper`; an established mapper keeps every byte -/
theorem install_translated (env : TW.Env) (p r a rest : List Nat) (k : Nat) (st : St) (rs es : Mac)
    (hp : p.length = 28) (hr : r.length = 6) (ha : a.length = 6) (hrs : rs.length = 6) (hes : es.length = 6)
    (h1 : r = st.mapperReal) (h2 : a = st.mapperApparent) (h3 : (k != 0) = st.known) :
    Enc (TW.set_active_mapper env (recBytes p r a k rest) rs es).st (setActiveMapper st rs es)
    ∧ (st.known = true → (TW.set_active_mapper env (recBytes p r a k rest) rs es).st = recBytes p r a k rest)
    ∧ (st.known = false → (TW.set_active_mapper env (recBytes p r a k rest) rs es).st = recBytes p rs es 1 rest) := by
  have h := set_active_mapper_eq env p r a rest k st rs es hp hr ha hrs hes h1 h2 h3
  refine ⟨h.2, ?_, ?_⟩
  · intro hk; rw [h.1]; simp [hk]
  · intro hk; rw [h.1]; simp [hk]

/-- the hypotheses are satisfiable: a zeroed 48-byte record encodes the fresh model state -/
example : Enc (recBytes (List.replicate 28 0) (List.replicate 6 0) (List.replicate 6 0) 0 (List.replicate 7 0)) ({} : St) :=
  enc_rec _ _ _ _ _ _ (by simp) (by simp) (by simp) rfl rfl rfl

end LLTD.C05T
