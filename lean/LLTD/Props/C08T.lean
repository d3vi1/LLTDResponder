/- C08 for the translated source: `C07T.largeFrame_header` under the name of its property. -/
import LLTD.Props.C07T

namespace LLTD.C08T
open LLTD

theorem large_header_translated (env : TW.Env) (c : Cfg) (hc : CfgOk c) (dest : Mac) (seq lenField : Nat) (payload : List Nat)
    (hd : dest.length = 6) (hseq : seq < 65536) :
    largeFrame c dest seq lenField payload
      = (TW.setLltdHeader env (List.replicate 32 0) c.ourMac dest seq X.opQltlvResp X.tosDiscovery).buffer ++ be 2 lenField ++ payload :=
  C07T.largeFrame_header env c hc dest seq lenField payload hd hseq

end LLTD.C08T
