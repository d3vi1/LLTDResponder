/-
  C03 for the translated source (DESIGN.md section 12.10): the two header writers of lltdWire.c, called the way `answerHello` calls
  them (own address as source, broadcast as destination, sequence number 0, opcode Hello, the Discover's service; then the Hello
  upper header at offset 32 with the Discover's Ethernet source as apparent and its real source as current mapper), store into a
  zeroed buffer the first 46 bytes of the frame `C03.hello_frame` is about; with the property writers composed behind them
  (`TChain.helloChain`, the composition transcribed by hand) the buffer holds that whole frame.
-/
import LLTD.Lemmas.TranslatedWireEq
import LLTD.Lemmas.TranslatedHelloChain

namespace LLTD.C03T
open LLTD LLTD.TWEq

theorem hello_headers_translated (env : TW.Env) (c : Cfg) (hc : CfgOk c) (tos gen : Nat) (cur app rest : List Nat)
    (htos : tos < 256) (hgen : gen < 65536) (hcur : cur.length = 6) (happ : app.length = 6) :
    let zero := List.replicate 46 0 ++ rest
    let b1 := TW.setLltdHeader env zero c.ourMac bcast 0 X.opHello tos
    let b2 := TW.setHelloHeader env b1.buffer b1.ret app cur gen
    b2.buffer = lltdHeader 0 bcast c.ourMac bcast c.ourMac 0 X.opHello tos ++ (helloHeader gen cur app ++ rest)
    ∧ b1.ret + b2.ret = 46 := by
  have hm := ourMac_length c hc
  have h1 := setLltdHeaderEx_zero env (List.replicate 14 0 ++ rest) c.ourMac bcast c.ourMac bcast 0 X.opHello tos hm rfl hm rfl
    (by decide) (by decide) htos
  have h2 := setHelloHeader_eq env (lltdHeader 0 bcast c.ourMac bcast c.ourMac 0 X.opHello tos) [0, 0] (List.replicate 6 0) (List.replicate 6 0) rest
    app cur gen rfl (by simp) (by simp) happ hcur hgen
  rw [lltdHeader_length rfl hm rfl hm] at h2
  simp only
  -- the 46 zeros are the 32 of the demultiplex header and the 14 of the Hello header
  rw [setLltdHeader_buffer, setLltdHeader_ret,
    show List.replicate 46 0 ++ rest = List.replicate 32 0 ++ (List.replicate 14 0 ++ rest) from rfl, h1.1, h1.2]
  exact ⟨h2.1, congrArg (32 + ·) h2.2⟩

/-- the frame `C03.hello_frame` is about begins with exactly these 46 bytes -/
theorem helloFrame_prefix (c : Cfg) (g : Glob) (gen tos : Nat) (cur app : Mac) :
    helloFrame c g gen tos cur app = lltdHeader 0 bcast c.ourMac bcast c.ourMac 0 X.opHello tos ++ (helloHeader gen cur app ++ helloTlvs c g) :=
  helloFrame_eq c g gen tos cur app

/-- the whole Hello: header writers and property writers as translated from the C text, composed as `answerHello` composes them on a
    zeroed buffer of 46 + k bytes with room for the properties, leave behind exactly the frame `C03.hello_frame` says is transmitted,
    followed by untouched zeros, and the final offset (the length handed to the port) is that frame's length -/
theorem hello_frame_translated (base : TW.Env) (c : Cfg) (g : Glob) (hc : CfgOk c) (tos gen : Nat) (cur app : List Nat) (k : Nat)
    (htos : tos < 256) (hgen : gen < 65536) (hcur : cur.length = 6) (happ : app.length = 6)
    (hif : c.iftype < u32) (hsp : c.speed < u32) (hm : c.mode < 256) (hr : c.rate < 65536) (hlo : -128 ≤ c.rssi) (hhi : c.rssi ≤ 127)
    (hb4 : isBytes c.ipv4) (hh : g.host.length < 18446744073709551616) (hl : c.ssid.length < 18446744073709551616)
    (he : TChain.EnvOk base) (hk : (helloTlvs c g).length ≤ k) :
    let env := envOf c g base
    let b1 := TW.setLltdHeader env (List.replicate 46 0 ++ List.replicate k 0) c.ourMac bcast 0 X.opHello tos
    let b2 := TW.setHelloHeader env b1.buffer b1.ret app cur gen
    let b3 := TChain.helloChain env c.wifi b2.buffer (b1.ret + b2.ret)
    b3.1 = helloFrame c g gen tos cur app ++ List.replicate (k - (helloTlvs c g).length) 0
    ∧ b1.ret + b2.ret + b3.2 = (helloFrame c g gen tos cur app).length := by
  have hh2 := hello_headers_translated (envOf c g base) c hc tos gen cur app (List.replicate k 0) htos hgen hcur happ
  have hm6 := ourMac_length c hc
  have hlen46 : (lltdHeader 0 bcast c.ourMac bcast c.ourMac 0 X.opHello tos ++ helloHeader gen cur app).length = 46 := by
    rw [List.length_append, lltdHeader_length rfl hm6 rfl hm6, helloHeader_length gen cur app hcur happ]
  have hchain := TChain.helloChain_writes base c g hc hif hsp hm hr hlo hhi hb4 hh hl he
    (lltdHeader 0 bcast c.ourMac bcast c.ourMac 0 X.opHello tos ++ helloHeader gen cur app) k hk
  rw [hlen46] at hchain
  simp only at hh2 ⊢
  rw [hh2.1, hh2.2, ← List.append_assoc, hchain, helloFrame_prefix]
  refine ⟨by simp [List.append_assoc], ?_⟩
  simp only [List.length_append] at hlen46 ⊢
  omega

end LLTD.C03T
