/-
  C04 for the translated source (DESIGN.md section 12.10): the TLV writers of lltdTlvOps.c store, for every buffer with room, every
  offset and every attribute record in range, exactly the TLV the model's Hello carries, and decoding those TLVs yields the
  interface's attributes (`C04.roundtrip`).  The port is `TWEq.envOf c g base`: a failing getter stores nothing and returns
  non-zero, a succeeding one stores the object representation of the attribute (what harness/vport.c does; that the real ports
  behave so is left to the correspondence runs).
-/
import LLTD.Props.C04
import LLTD.Lemmas.TranslatedWireEq
import LLTD.Lemmas.TranslatedHelloChain
import LLTD.Props.C03T
import LLTD.Lemmas.TranslatedLinuxPortEq

namespace LLTD.C04T
open LLTD LLTD.Spec LLTD.TWEq LLTD.CSem

/-- a buffer with `pre.length` bytes before the write position and at least two bytes of room (more where the TLV is longer:
    `rest.drop n` is what remains behind an n-byte value) -/
abbrev Buf (pre : List Nat) (w0 w1 : Nat) (rest : List Nat) : List Nat := pre ++ w0 :: w1 :: rest

/-- the wired attributes: host id (own address or zeros when the getter fails), characteristics word, interface type, IPv4, IPv6,
    link speed - each stored as the TLV whose decoding `C04.roundtrip` is about, with the number of bytes the caller advances by -/
theorem wired_writers_translated (base : TW.Env) (c : Cfg) (g : Glob) (pre rest : List Nat) (w0 w1 : Nat)
    (hc : CfgOk c) (hr : C04.CfgRange c) (hb4 : isBytes c.ipv4) :
    (TW.setHostIdTLV (envOf c g base) (Buf pre w0 w1 rest) pre.length).buffer = pre ++ (tlvHostId c ++ rest.drop 6)
    ∧ (TW.setHostIdTLV (envOf c g base) (Buf pre w0 w1 rest) pre.length).ret = 8
    ∧ (TW.setCharacteristicsTLV (envOf c g base) (Buf pre w0 w1 rest) pre.length).buffer = pre ++ (tlvCharacteristics c ++ rest.drop 4)
    ∧ (TW.setCharacteristicsTLV (envOf c g base) (Buf pre w0 w1 rest) pre.length).ret = 6
    ∧ (TW.setPhysicalMediumTLV (envOf c g base) (Buf pre w0 w1 rest) pre.length).buffer = pre ++ (tlvIfType c ++ rest.drop 4)
    ∧ (TW.setPhysicalMediumTLV (envOf c g base) (Buf pre w0 w1 rest) pre.length).ret = 6
    ∧ (TW.setIPv4TLV (envOf c g base) (Buf pre w0 w1 rest) pre.length).buffer = pre ++ (tlvIpv4 c ++ rest.drop 4)
    ∧ (TW.setIPv4TLV (envOf c g base) (Buf pre w0 w1 rest) pre.length).ret = 6
    ∧ (TW.setIPv6TLV (envOf c g base) (Buf pre w0 w1 rest) pre.length).buffer = pre ++ (tlvIpv6 c ++ rest.drop 16)
    ∧ (TW.setIPv6TLV (envOf c g base) (Buf pre w0 w1 rest) pre.length).ret = 18
    ∧ (TW.setLinkSpeedTLV (envOf c g base) (Buf pre w0 w1 rest) pre.length).buffer = pre ++ (tlvSpeed c ++ rest.drop 4)
    ∧ (TW.setLinkSpeedTLV (envOf c g base) (Buf pre w0 w1 rest) pre.length).ret = 6 :=
  ⟨(setHostIdTLV_eq base c g pre rest w0 w1 hc).1, (setHostIdTLV_eq base c g pre rest w0 w1 hc).2,
   (setCharacteristicsTLV_eq base c g pre rest w0 w1).1, (setCharacteristicsTLV_eq base c g pre rest w0 w1).2,
   (setPhysicalMediumTLV_eq base c g pre rest w0 w1 hr.iftype).1, (setPhysicalMediumTLV_eq base c g pre rest w0 w1 hr.iftype).2,
   (setIPv4TLV_eq base c g pre rest w0 w1 hc hb4).1, (setIPv4TLV_eq base c g pre rest w0 w1 hc hb4).2,
   (setIPv6TLV_eq base c g pre rest w0 w1 hc).1, (setIPv6TLV_eq base c g pre rest w0 w1 hc).2,
   (setLinkSpeedTLV_eq base c g pre rest w0 w1 hr.speed).1, (setLinkSpeedTLV_eq base c g pre rest w0 w1 hr.speed).2⟩

/-- the host name (at most 32 bytes of what the platform reports, whichever of the two length conventions the port follows), the
    fixed TLVs (performance counter, QoS characteristics, empty icon / friendly-name markers) and the end marker -/
theorem host_writers_translated (base : TW.Env) (c : Cfg) (g : Glob) (pre rest : List Nat) (w0 w1 : Nat)
    (hl : g.host.length < 18446744073709551616) (hun : 8 ≤ (base.uninit 8).length) :
    (TW.setHostnameTLV (envOf c g base) (Buf pre w0 w1 rest) pre.length).buffer = pre ++ (tlvHostname g ++ rest.drop (g.host.take 32).length)
    ∧ (TW.setHostnameTLV (envOf c g base) (Buf pre w0 w1 rest) pre.length).ret = 2 + (g.host.take 32).length
    ∧ (TW.setPerfCounterTLV base (Buf pre w0 w1 rest) pre.length).buffer = pre ++ (tlvPerf ++ rest.drop 8)
    ∧ (TW.setQosCharacteristicsTLV base (Buf pre w0 w1 rest) pre.length).buffer = pre ++ (tlvQos ++ rest.drop 4)
    ∧ (TW.setIconImageTLV base (Buf pre w0 w1 rest) pre.length).buffer = pre ++ (tlvIcon ++ rest)
    ∧ (TW.setFriendlyNameTLV base (Buf pre w0 w1 rest) pre.length).buffer = pre ++ (tlvFriendly ++ rest)
    ∧ (TW.setEndOfPropertyTLV base (pre ++ w0 :: rest) pre.length).buffer = pre ++ ([X.eop] ++ rest) :=
  ⟨(setHostnameTLV_eq base c g pre rest w0 w1 hl).1, (setHostnameTLV_eq base c g pre rest w0 w1 hl).2,
   (setPerfCounterTLV_eq base pre rest w0 w1 hun).1, (setQosCharacteristicsTLV_eq base pre rest w0 w1).1,
   (setIconImageTLV_eq base pre rest w0 w1).1, (setFriendlyNameTLV_eq base pre rest w0 w1).1, (setEndOfPropertyTLV_eq base pre rest w0).1⟩

/-- the 802.11 attributes of a wireless interface: mode, BSSID (omitted altogether when its getter fails), SSID, maximum rate,
    signal strength (sign kept) -/
theorem wifi_writers_translated (base : TW.Env) (c : Cfg) (g : Glob) (pre rest : List Nat) (w0 w1 : Nat)
    (hc : CfgOk c) (hr : C04.CfgRange c) (hw : c.wifi = true) (hl : c.ssid.length < 18446744073709551616) (hun : 6 ≤ (base.uninit 6).length) :
    (TW.setWirelessTLV (envOf c g base) (Buf pre w0 w1 rest) pre.length).buffer = pre ++ (tlvWifiMode c ++ rest.drop 1)
    ∧ (TW.setBSSIDTLV (envOf c g base) (Buf pre w0 w1 rest) pre.length).buffer
        = (if c.failBssid then Buf pre w0 w1 rest else pre ++ (tlv X.tlvBssid c.bssid ++ rest.drop 6))
    ∧ (TW.setBSSIDTLV (envOf c g base) (Buf pre w0 w1 rest) pre.length).ret = (if c.failBssid then 0 else 8)
    ∧ (TW.setSSIDTLV (envOf c g base) (Buf pre w0 w1 rest) pre.length).buffer = pre ++ (tlvSsid c ++ rest.drop (c.ssid.take 32).length)
    ∧ (TW.setWifiMaxRateTLV (envOf c g base) (Buf pre w0 w1 rest) pre.length).buffer = pre ++ (tlvRate c ++ rest.drop 2)
    ∧ (TW.setWifiRssiTLV (envOf c g base) (Buf pre w0 w1 rest) pre.length).buffer = pre ++ (tlvRssi c ++ rest.drop 4) :=
  ⟨(setWirelessTLV_eq base c g pre rest w0 w1 hw hr.mode).1, (setBSSIDTLV_eq base c g pre rest w0 w1 hc hun).1,
   (setBSSIDTLV_eq base c g pre rest w0 w1 hc hun).2, (setSSIDTLV_eq base c g pre rest w0 w1 hl).1,
   (setWifiMaxRateTLV_eq base c g pre rest w0 w1 hr.rate).1, (setWifiRssiTLV_eq base c g pre rest w0 w1 hr.rssiLo hr.rssiHi).1⟩

/-- a wired interface: the wireless writer stores nothing and advances by nothing -/
theorem wired_no_wifi_translated (base : TW.Env) (c : Cfg) (g : Glob) (buf : List Nat) (off : Nat) (hw : c.wifi = false) :
    (TW.setWirelessTLV (envOf c g base) buf off).buffer = buf ∧ (TW.setWirelessTLV (envOf c g base) buf off).ret = 0 :=
  setWirelessTLV_wired base c g buf off hw

/-- what the mapper reads back: the TLVs above are exactly the model's property list, whose decoding is the attribute record -/
theorem attrs_of_translated (c : Cfg) (g : Glob) (hr : C04.CfgRange c) :
    helloTlvs c g = encodeTlvs (helloProps c g) ∧ decodeAttrs (helloProps c g) = expectedAttrs c g :=
  ⟨helloTlvs_eq c g, C04.roundtrip c g hr⟩

/-- the whole property list: the translated writers, called in answerHello's order with answerHello's offset bookkeeping
    (`TChain.helloChain`: that composition is transcribed by hand, the writers are the translated ones) on a zeroed buffer with room,
    leave behind exactly the model's property list followed by the untouched zeros, report its length - and the mapper decoding it
    reads the interface's attributes -/
theorem hello_properties_translated (base : TW.Env) (c : Cfg) (g : Glob) (pre : List Nat) (k : Nat)
    (hc : CfgOk c) (hr : C04.CfgRange c) (hb4 : isBytes c.ipv4) (hh : g.host.length < 18446744073709551616)
    (hl : c.ssid.length < 18446744073709551616) (he : TChain.EnvOk base) (hk : (helloTlvs c g).length ≤ k) :
    TChain.helloChain (envOf c g base) c.wifi (pre ++ List.replicate k 0) pre.length
        = (pre ++ (helloTlvs c g ++ List.replicate (k - (helloTlvs c g).length) 0), (helloTlvs c g).length)
    ∧ helloTlvs c g = encodeTlvs (helloProps c g) ∧ decodeAttrs (helloProps c g) = expectedAttrs c g :=
  ⟨TChain.helloChain_writes base c g hc hr.iftype hr.speed hr.mode hr.rate hr.rssiLo hr.rssiHi hb4 hh hl he pre k hk,
   helloTlvs_eq c g, C04.roundtrip c g hr⟩

/-- end to end: the bytes the translated header and property writers (composed as `answerHello` composes them) hand to the port
    decode - with the independent decoder - to a Hello whose property list yields exactly the interface's attributes -/
theorem hello_translated_attrs (base : TW.Env) (c : Cfg) (g : Glob) (hc : CfgOk c) (hr : C04.CfgRange c) (tos gen : Nat)
    (cur app : List Nat) (k : Nat) (htos : tos < 256) (hgen : gen < 65536) (hcur : cur.length = 6) (happ : app.length = 6)
    (hb4 : isBytes c.ipv4) (hh : g.host.length < 18446744073709551616) (hl : c.ssid.length < 18446744073709551616)
    (he : TChain.EnvOk base) (hk : (helloTlvs c g).length ≤ k) :
    let env := envOf c g base
    let b1 := TW.setLltdHeader env (List.replicate 46 0 ++ List.replicate k 0) c.ourMac bcast 0 X.opHello tos
    let b2 := TW.setHelloHeader env b1.buffer b1.ret app cur gen
    let b3 := TChain.helloChain env c.wifi b2.buffer (b1.ret + b2.ret)
    ∃ h, decodeHello (b3.1.take (b1.ret + b2.ret + b3.2)) = some h ∧ decodeAttrs h.tlvs = expectedAttrs c g := by
  have h := C03T.hello_frame_translated base c g hc tos gen cur app k htos hgen hcur happ hr.iftype hr.speed hr.mode hr.rate hr.rssiLo hr.rssiHi
    hb4 hh hl he hk
  simp only at h ⊢
  rw [h.1, h.2, List.take_left, decodeHello_helloFrame c g gen tos cur app hc hcur happ]
  exact ⟨_, rfl, C04.roundtrip c g hr⟩

/-- the Linux port's getters (os/linux/lltd_port.c, as translated from the C text): what they hand to the core for an interface
    record is the model's `LinuxPort.supplied` - MTU, hardware address and interface type copied, link speed in units of 100 bit/s,
    full duplex and loopback mapped to their characteristics bits - which `C04.linux_port` / `linux_flags_in_hello` carry into the Hello -/
theorem linux_getters_translated (env : TW.Env) (b : List Nat) (r : LinuxPort.Rec) (h : TLinuxEq.EncRec b r)
    (o8 o6 o4 : List Nat) (h8 : o8.length = 8) (h6 : o6.length = 6) (h4 : o4.length = 4)
    (hm : r.mtu < 4294967296) (ht : r.ifType < 4294967296) (hs : r.linkSpeed < 4294967296) :
    unle (TW.lltd_port_get_mtu env b o8).out_mtu = (LinuxPort.supplied r).mtu
    ∧ (TW.lltd_port_get_mac_address env b o6).out_mac = (LinuxPort.supplied r).mac
    ∧ unle (TW.lltd_port_get_if_type env b o4).out_if_type = (LinuxPort.supplied r).ifType
    ∧ unle (TW.lltd_port_get_link_speed_100bps env b o4).out_speed_100bps = (LinuxPort.supplied r).speed100
    ∧ (TW.lltd_port_get_characteristics_flags env b).ret = (LinuxPort.supplied r).flags :=
  ⟨(TLinuxEq.get_mtu_eq env b o8 r h h8 hm).2, (TLinuxEq.get_mac_eq env b o6 r h h6).2, (TLinuxEq.get_if_type_eq env b o4 r h h4 ht).2,
   (TLinuxEq.get_link_speed_eq env b o4 r h h4 hs).2, TLinuxEq.get_flags_eq env b r h⟩

/-- the hypotheses are satisfiable: a concrete wired record -/
example : CfgOk { mac := [2, 0, 0, 0, 0, 1], mtu := 1500 } ∧ C04.CfgRange { mac := [2, 0, 0, 0, 0, 1], mtu := 1500 } := by
  refine ⟨⟨rfl, rfl, rfl, rfl, by decide, by decide⟩, ⟨by decide, by decide, by decide, by decide, by decide, by decide⟩⟩

end LLTD.C04T
