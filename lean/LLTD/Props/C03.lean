/-
  C03 — An accepted Discover is answered by exactly one correct Hello.
-/
import LLTD.Lemmas.Sends

namespace LLTD.C03
open LLTD LLTD.Spec

/-- exactly one transmit, and it is the Hello naming the Discover's real source / Ethernet source as current / apparent
    mapper and carrying the generation of that very Discover — in EVERY state (whatever Hellos were heard before, whatever
    the stored generations of either service) -/
theorem hello_frame (c : Cfg) (g : Glob) (w : World) (st : St) (img : List Nat) (hc : CfgOk c)
    (hd : isDiscover img = true) (hacc : mapperMatches st (fRealSrc img) = true) (hm : (w.malloc c.mtuEff).2 = true) :
    ∃ ok, (parseFrameSt c g w st img).fx.filter (fun x => match x with | .send .. => true | _ => false) =
      [Fx.send ok c.idx (helloFrame c g (fDiscGen img) (fTos img) (fRealSrc img) (fEthSrc img))] := by
  obtain ⟨hl, hd⟩ := (isDiscover_iff img).mp hd
  rw [parseFrameSt_req, hd, reactTo, if_pos hacc, answerHello_ok c g w _ img hc hl hm, helloGen_preStep]
  exact ⟨_, by split <;> rfl⟩

theorem sent_accepted (c : Cfg) (g : Glob) (w : World) (st : St) (img : List Nat) (hc : CfgOk c)
    (hd : isDiscover img = true) (hacc : mapperMatches st (fRealSrc img) = true) (hm : (w.malloc c.mtuEff).2 = true) :
    sends (obsOf c g img (parseFrameSt c g w st img).fx).fx =
      [helloFrame c g (LLTD.fDiscGen img) (LLTD.fTos img) (LLTD.fRealSrc img) (LLTD.fEthSrc img)] := by
  obtain ⟨hl, hd⟩ := (isDiscover_iff img).mp hd
  rw [sends_obsOf, discover_sent c g w st img hc hl hd, if_pos ⟨hacc, hm⟩]

/-- the property predicate holds of the model's reaction to every accepted Discover -/
theorem accepted_discover_answered (c : Cfg) (g : Glob) (w : World) (st : St) (img : List Nat) (hc : CfgOk c)
    (hmac : c.failMac = false) (hb : isBytes img)
    (hd : isDiscover img = true) (hacc : mapperMatches st (fRealSrc img) = true) (hm : (w.malloc c.mtuEff).2 = true) :
    holdsC03Rx (obsOf c g img (parseFrameSt c g w st img).fx) = true := by
  obtain ⟨hl, -⟩ := (isDiscover_iff img).mp hd
  obtain ⟨h1, h2⟩ := fAddr_length img hl
  have hgen : LLTD.fDiscGen img % 65536 = LLTD.fDiscGen img := Nat.mod_eq_of_lt (fDiscGen_lt img ⟨hl, hb⟩)
  have hown := ourMac_eq c hmac
  have hsends := sent_accepted c g w st img hc hd hacc hm
  unfold holdsC03Rx
  have hd' : isDiscover (obsOf c g img (parseFrameSt c g w st img).fx).frame = true := hd
  simp only [hd', hsends, Bool.not_true, Bool.false_or, List.isEmpty_cons, Bool.false_eq_true, if_false]
  rw [decodeHello_helloFrame c g _ _ _ _ hc h1 h2]
  simp [obsOf, hown, spec_fTos, spec_fRealSrc, spec_fEthSrc, spec_gen, hgen]

/-- a Discover that is not accepted gets no reply and changes nothing -/
theorem refused_discover_silent (c : Cfg) (g : Glob) (w : World) (st : St) (img : List Nat)
    (hd : isDiscover img = true) (hrej : mapperMatches st (fRealSrc img) = false) :
    parseFrameSt c g w st img = { st := st, w := w, fx := [] } := by
  rw [parseFrameSt_req, ((isDiscover_iff img).mp hd).2, reactTo, hrej]; rfl

/-- non-vacuity: a concrete wired configuration satisfies the hypotheses -/
example : CfgOk { mac := [2, 0xaa, 0xbb, 0xcc, 0xdd, 1], mtu := 1500 } :=
  ⟨rfl, rfl, rfl, rfl, by decide, by decide⟩

end LLTD.C03
