/-
  C10 for the translated source (DESIGN.md section 12.10): the Probe / Train frame `setLltdHeaderEx` stores with the arguments of
  `sendProbeMsg`, read back by the independent decoder, names the descriptor's destination as Ethernet and real destination and the
  emitting responder's own address as real source: what the observing responder filters on (`parseProbe` compares the real
  destination with its own address) and what it records and reports.
-/
import LLTD.Props.C06T

namespace LLTD.C10T
open LLTD LLTD.Spec

theorem probe_fields_translated (env : TW.Env) (c : Cfg) (hc : CfgOk c) (src dst : Mac) (ty : Nat) (hs : src.length = 6) (hd : dst.length = 6) :
    decodeBase (TW.setLltdHeaderEx env (List.replicate 32 0) src dst c.ourMac dst 0 (if ty = 1 then X.opProbe else X.opTrain) X.tosDiscovery).buffer
      = some { ethDst := dst, ethSrc := src, etherType := 0x88D9, version := 1, tos := X.tosDiscovery, reserved := 0,
               opcode := (if ty = 1 then X.opProbe else X.opTrain), realDst := dst, realSrc := c.ourMac, seq := 0 } := by
  rw [C06T.probe_frame_translated env c hc src dst ty hs hd]
  have hm := ourMac_length c hc
  have := @decodeBase_lltdHeader 0 dst src dst c.ourMac 0 (if ty = 1 then X.opProbe else X.opTrain) X.tosDiscovery [] hd hs hd hm
  simpa [C06.probeFrame] using this

end LLTD.C10T
