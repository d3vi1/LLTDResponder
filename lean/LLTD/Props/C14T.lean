/-
  C14 for the translated source (as Props/C13T.lean): switch_state_mapping, the inactivity-deadline and charge bookkeeping of the
  mapping engine (mapping_reset_inactive_timeout, mapping_check_inactive_timeout, mapping_on_charge, mapping_check_charge_timeout,
  mapping_reset_charge) and the mapping block of automata_tick.
-/
import LLTD.Props.C14
import LLTD.Lemmas.TranslatedEq
import LLTD.Lemmas.TranslatedTick

namespace LLTD.C14T
open LLTD LLTD.Spec LLTD.TEq

/-- mapping_reset_inactive_timeout as translated: the deadline is 30 s from now -/
theorem deadline_translated (e : T.Env) (m : T.mapping_state) (he : ClockOk e) :
    holdsC14Deadline e.nowS (mapOfC (T.mapping_reset_inactive_timeout e m).mstate) = true := by
  rw [mapping_reset_inactive_timeout_eq e m he]
  exact C14.deadline (mapOfC m) e.nowS

/-- … and leaves the charge counter and the charge deadline alone -/
theorem deadline_frame_translated (e : T.Env) (m : T.mapping_state) (he : ClockOk e) :
    (T.mapping_reset_inactive_timeout e m).mstate.ctc = m.ctc ∧
    (T.mapping_reset_inactive_timeout e m).mstate.charge_timeout_ts = m.charge_timeout_ts ∧
    (T.mapping_reset_inactive_timeout e m).mstate.inactive_timeout_ts = e.nowS + 30 := by
  rw [eq_mapToC (mapping_reset_inactive_timeout_eq e m he)]; exact ⟨rfl, rfl, rfl⟩

/-- mapping_check_inactive_timeout as translated: true exactly when an armed deadline has passed; it changes nothing -/
theorem check_inactive_translated (e : T.Env) (m : T.mapping_state) :
    ((T.mapping_check_inactive_timeout e m).ret = true ↔ (m.inactive_timeout_ts ≠ 0 ∧ e.nowS ≥ m.inactive_timeout_ts)) ∧
    (T.mapping_check_inactive_timeout e m).mstate = m := by
  have h := mapping_check_inactive_timeout_eq e m
  exact ⟨h.2 ▸ mapCheckInactive_iff (mapOfC m) e.nowS, h.1⟩

/-- the charge time-out as translated never touches the inactivity deadline (seeded change C14_f / C12_n: a charge
    time-out that disarms the 30 s deadline) -/
theorem charge_keeps_deadline_translated (e : T.Env) (m : T.mapping_state) (he : ClockOk e) :
    (T.mapping_check_charge_timeout e m).mstate.inactive_timeout_ts = m.inactive_timeout_ts ∧
    (T.mapping_on_charge e m).mstate.inactive_timeout_ts = m.inactive_timeout_ts ∧
    (T.mapping_reset_charge e m).mstate.inactive_timeout_ts = m.inactive_timeout_ts := by
  rw [eq_mapToC (mapping_check_charge_timeout_eq e m).1, eq_mapToC (mapping_on_charge_eq e m he),
    eq_mapToC (mapping_reset_charge_eq e m)]
  exact ⟨C14.checkCharge_inact (mapOfC m) e.nowS, rfl, rfl⟩

/-- switch_state_mapping as translated (table walk, per-state time-out pre-emption, the self-call) follows
    the property's state machine: for every automaton record carrying the tables `init_automata_mapping` builds, every
    state of the machine, every integer input and every clock reading `holdsC14Step` holds of what the translated function
    leaves behind, the recursion ends within two levels and the tables are left alone -/
theorem step_translated (e : T.Env) (hnow : e.nowS < u64) (a : T.automata) (inp : Int) (hok : AutOk a) (hm : IsMapping a)
    (hs : a.current_state < 3) :
    holdsC14Step (timeoutOf X.mappingTimeouts a.current_state) (fsmOfC a) (fsmOfC (T.switch_state_mapping 2 e a inp).autom) inp e.nowS = true ∧
    (T.switch_state_mapping 2 e a inp).diverged = false ∧ sameTables a (T.switch_state_mapping 2 e a inp).autom := by
  obtain ⟨h1, h2, h3⟩ := switch_state_mapping_eq e hnow a inp hok hm
  refine ⟨?_, h2, h3⟩
  rw [h1]
  exact C14.step (fsmOfC a) hs inp e.nowS hnow

/-- every input other than Discover / Emit / Reset / time-out / emission-complete leaves the translated function's state
    where it was (within the time-out) -/
theorem ignore_translated (e : T.Env) (hnow : e.nowS < u64) (a : T.automata) (inp : Int) (hok : AutOk a) (hm : IsMapping a)
    (hs : a.current_state < 3) (hi : inp ≠ 0 ∧ inp ≠ 2 ∧ inp ≠ 8 ∧ inp ≠ -1 ∧ inp ≠ -3)
    (hw : timeoutOf X.mappingTimeouts a.current_state = 0 ∨ diff64 e.nowS a.last_ts ≤ timeoutOf X.mappingTimeouts a.current_state) :
    (T.switch_state_mapping 2 e a inp).autom.current_state = a.current_state ∧
    (T.switch_state_mapping 2 e a inp).autom.last_ts = e.nowS := by
  have h1 := (switch_state_mapping_eq e hnow a inp hok hm).1
  -- the call is named before its fields are compared: matching `(fsmOfC (T.switch_state_mapping ..).autom).state` against
  -- `.current_state` goes through without this, but only by unfolding the translated function (twelve times the cost)
  generalize (T.switch_state_mapping 2 e a inp).autom = x at h1 ⊢
  refine ⟨(congrArg Fsm.state h1).trans ?_, (congrArg Fsm.lastTs h1).trans (C14.last_ts ..)⟩
  rw [stepMapping, C14.follows.state hs]
  exact (if_pos hw).trans (C14.ignore _ inp hi)

/-- C14's tick-driven clause for the translated tick: once the 30 s inactivity deadline has passed, the tick (as translated)
    leaves the mapping engine idle, the charge counter and both deadlines cleared and the session table empty -/
theorem tick_inactive_translated (e : T.Env) (he : EnvOk e) (m en : T.automata) (t : T.session_table) (p : T.lltd_automata_tick_port)
    (mx : T.mapping_state) (bx : T.band_state) (ltx : Nat)
    (hm : AutOk m) (him : IsMapping m) (hen : EnumOk en) (ht : TickTblOk t) (hb : BandOk bx) (hltx : ltx ≤ e.nowMs)
    (hs : m.current_state < 3) :
    let r := T.automata_tick e m en t p mx bx ltx
    holdsC14Tick mx.inactive_timeout_ts e.nowS (fsmOfC r.mapping) (mapOfC r.mapping_extra) (tableOfC r.sessions).live.length = true := by
  intro r
  obtain ⟨h1, _, _⟩ := automata_tick_eq e he m en t p mx bx ltx hm him hen ht hb hltx
  have hn : e.nowMs / 1000 < u64 := by have := he.hc.1; unfold u64 at *; omega
  obtain ⟨f', m', t', hmap, htab, hholds⟩ :=
    C14.tick_inactive (fsmOfC m) hs (mapOfC mx) (some (fsmOfC en, some (bandOfC bx))) (tableOfC t) ltx .wired e.nowMs hn
  rw [h1] at hmap htab
  simp only [Option.some.injEq, Prod.mk.injEq] at hmap htab
  rw [← hmap.1, ← hmap.2, ← htab, ← he.hs] at hholds
  exact hholds

example : ClockOk { nowMs := 5000, nowS := 5 } := by refine ⟨by decide, by decide⟩
example : (T.mapping_reset_inactive_timeout { nowMs := 5000, nowS := 5 } { ctc := 3, charge_timeout_ts := 6, inactive_timeout_ts := 0 }).mstate.inactive_timeout_ts = 35 := by decide

end LLTD.C14T
