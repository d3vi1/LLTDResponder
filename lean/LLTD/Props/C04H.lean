/-
  C04 — the history form, for EVERY fault schedule: the answer to an accepted Discover is `C04.bridge`, and nothing else the
  model transmits decodes as a Hello (`no_hello`), so `holdsC04Rx` has nothing more to judge.
-/
import LLTD.Props.C04
import LLTD.Lemmas.History

namespace LLTD.C04H
open LLTD LLTD.Spec

theorem step_holds (c : Cfg) (g : Glob) (w : World) (st : St) (img : List Nat)
    (hc : CfgOk c) (hr : C04.CfgRange c) (hi : St.Inv st) (him : ImgOk img) :
    holdsC04Rx (obsOf c g img (parseFrameSt c g w st img).fx) = true := by
  refine discover_cases c g w st img hc (C04.bridge c g w st img hc hr) (fun _ hs => ?_) fun hd => ?_
  · unfold holdsC04Rx helloReplies
    rw [hs]; rfl
  · unfold holdsC04Rx helloReplies
    rw [sends_obsOf, no_hello c g w st img hc hi him hd]; rfl

/-- the attributes changing from frame to frame: every Hello reflects those current when it is built -/
theorem history_varying :
    ∀ (items : List (Cfg × Glob × List Nat)) (w : World) (st : St),
      (∀ it ∈ items, CfgOk it.1 ∧ C04.CfgRange it.1 ∧ ImgOk it.2.2) → St.Inv st → holdsC04 (C05.runObsV w st items) = true :=
  fun items w st hitems hi => run_all' (fun _ st => St.Inv st) _ holdsC04Rx
    (fun c g w st img ⟨hc, hr, him⟩ hi => ⟨step_holds c g w st img hc hr hi him, parseFrameSt_inv c g w st img hi him⟩)
    items w st hitems hi

/-- THE HISTORY THEOREM: every frame history, every fault schedule -/
theorem history (c : Cfg) (g : Glob) (hc : CfgOk c) (hr : C04.CfgRange c) :
    ∀ (imgs : List (List Nat)) (w : World) (st : St), (∀ img ∈ imgs, ImgOk img) → St.Inv st →
      holdsC04 (C05.runObs c g w st imgs) = true := by
  intro imgs w st himgs hi
  rw [runObs_eq_runObsV]
  exact history_varying _ w st (List.forall_mem_map.mpr fun img h => ⟨hc, hr, himgs img h⟩) hi

end LLTD.C04H
