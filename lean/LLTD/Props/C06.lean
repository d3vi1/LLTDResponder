/-
  C06 — An Emit is executed descriptor by descriptor and then acknowledged.
-/
import LLTD.Lemmas.NoFault
import LLTD.Lemmas.Safe
import LLTD.Lemmas.Sends

namespace LLTD.C06
open LLTD LLTD.Spec

structure NoFault (w : World) : Prop where
  m  : w.failMalloc = []
  s  : w.failSend = []
  ma : w.failMallocAll = false
  sa : w.failSendAll = false

theorem noFault_iff (w : World) : NoFault w ↔ LLTD.NoFault w :=
  ⟨fun h => ⟨h.m, h.s, h.ma, h.sa⟩, fun h => ⟨h.m, h.s, h.ma, h.sa⟩⟩

theorem sendProbeMsg_nf {c : Cfg} {st : St} {w : World} {fx : List Fx} {src dst : Mac} {pause ty : Nat} {ack : Bool} (h : LLTD.NoFault w) :
    (sendProbeMsg c st w fx src dst pause ty ack).2 =
      fx ++ [Fx.sleep pause, Fx.send true c.idx (probeFrame c src dst ty)] ++ (if ack then [Fx.send true c.idx (ackFrame c st)] else []) := by
  have h1 : LLTD.NoFault (w.malloc X.sizeofDemux).1 := nf_of_sched h (malloc_sched w _)
  have hs1 := LLTD.send_nf _ h1
  have hs2 := LLTD.send_nf _ (nf_of_sched h1 (send_sched _))
  refine sendProbeMsg_cases (P := fun r => r.2 = _) c st w fx src dst pause ty ack (fun e => ?_) (fun _ hor => ?_) (fun _ _ ha => ?_)
  · rw [LLTD.malloc_nf w _ h] at e; exact Bool.noConfusion e
  · rw [hs1, hor.resolve_left (by rw [hs1]; decide)]; simp
  · rw [hs2, ha]; simp

structure DescAt (img : List Nat) (i : Nat) where
  ty : Nat := byteAt img (34 + 14 * i)
  pause : Nat := byteAt img (35 + 14 * i)
  src : Mac := slice img (36 + 14 * i) 6
  dst : Mac := slice img (42 + 14 * i) 6

def descFx (c : Cfg) (st : St) (img : List Nat) (n i : Nat) : List Fx :=
  [Fx.sleep (byteAt img (35 + 14 * i)), Fx.send true c.idx (probeFrame c (slice img (36 + 14 * i) 6) (slice img (42 + 14 * i) 6) (byteAt img (34 + 14 * i)))] ++
  (if i + 1 = n then [Fx.send true c.idx (ackFrame c st)] else [])

theorem emitStep_nf (c : Cfg) (st : St) (img : List Nat) (n i : Nat) (w : World) (fx : List Fx) (hi : 14 * i < 65536)
    (hty : byteAt img (34 + 14 * i) ≤ 1) (hw : LLTD.NoFault w) :
    (emitStep c st img n i w fx).2 = fx ++ descFx c st img n i ∧ LLTD.NoFault (emitStep c st img n i w fx).1 := by
  unfold emitStep
  rw [emitOff_eq i hi, X.offEmiteeType_val, X.offEmiteePause_val, X.offEmiteeSrc_val, X.offEmiteeDst_val, Nat.add_zero,
    if_pos (by omega : byteAt img (34 + 14 * i) = 1 ∨ byteAt img (34 + 14 * i) = 0)]
  refine ⟨?_, nf_of_sched hw (by simp)⟩
  rw [sendProbeMsg_nf hw, show 34 + 14 * i + 1 = 35 + 14 * i by omega, show 34 + 14 * i + 2 = 36 + 14 * i by omega,
    show 34 + 14 * i + 8 = 42 + 14 * i by omega]
  simp [descFx]

theorem emitLoop_exact (c : Cfg) (st : St) (img : List Nat) (n : Nat) (hfit : 34 + 14 * n ≤ img.length) (hn : 14 * n < 65536)
    (hk : ∀ i < n, byteAt img (34 + 14 * i) ≤ 1) (w : World) (hw : LLTD.NoFault w) :
    (emitLoop c st img n n 0 w []).2.1 = (List.range' 0 n).flatMap (descFx c st img n) := by
  obtain ⟨j, -, ⟨-, hq⟩, hj⟩ := emitLoop_walk (Q := fun j w fx => LLTD.NoFault w ∧ fx = (List.range' 0 j).flatMap (descFx c st img n))
    c st img n n 0 w [] (fun j w fx _ hjn _ h => by
      obtain ⟨hfx, hw'⟩ := emitStep_nf c st img n j w fx (by omega) (hk j (by omega)) h.1
      exact ⟨hw', by rw [hfx, h.2, List.range'_concat, List.flatMap_append]; simp⟩) ⟨hw, rfl⟩
  rcases hj with ⟨rfl, -⟩ | ⟨hlt, hrd⟩
  · rw [hq, Nat.zero_add]
  · rw [rdOk_emitOff img j (by omega) (by omega)] at hrd; exact Bool.noConfusion hrd

/-- THE EMIT THEOREM (model level): descriptors that fit, kinds 0/1, no faults ⇒ per descriptor, in order, the pause and the
    Probe / Train frame, the ACK after the last -/
theorem emit_exact (c : Cfg) (w : World) (st : St) (img : List Nat) (hc : CfgOk c) (hmtu : c.failMtu = false)
    (hlen : c.mtu ≤ img.length) (hw : NoFault w)
    (hfit : 34 + 14 * unbe (slice img 32 2) ≤ c.mtu) (hk : ∀ i < unbe (slice img 32 2), byteAt img (34 + 14 * i) ≤ 1) :
    let n := unbe (slice img 32 2)
    let st' := setActiveMapper { st with seq := fSeq img } (fRealSrc img) (fEthSrc img)
    (parseEmit c w st img).fx = (List.range n).flatMap (descFx c st' img n) ∧ (parseEmit c w st img).fault = none := by
  have hlo := hc.mtuLo
  have hhi := hc.mtuHi
  refine ⟨?_, parseEmit_safe c w st img hc hlen⟩
  refine parseEmit_cases (P := fun o => o.fx = _) c w st img (fun hnomtu => ?_) (fun _ hshort => ?_) (fun _ _ n hn => ?_)
  · rw [hmtu, X.sizeofDemux_val, X.sizeofEmitHdr_val] at hnomtu
    rcases hnomtu with h | h
    · exact Bool.noConfusion h
    · omega
  · rw [rdOk_numDescs img (by omega)] at hshort; exact Bool.noConfusion hshort
  · -- the declared count fits, so it is not clamped
    simp only [X.sizeofDemux_val, X.sizeofEmitHdr_val, X.sizeofEmitee_val] at hn
    have hcap : unbe (slice img 32 2) ≤ (c.mtu - 32 - 2) / 14 := (Nat.le_div_iff_mul_le (by decide)).mpr (by omega)
    rw [Nat.min_eq_left hcap] at hn
    rw [hn, emitLoop_exact c (cmdSt st img) img _ (by omega) (by omega) hk w ((noFault_iff w).mp hw), List.range_eq_range']
    rfl

/-- the model's Probe/Train and ACK frames are the specified 32-byte frames -/
theorem probeFrame_spec (c : Cfg) (src dst : Mac) (ty : Nat) (hty : ty ≤ 1) :
    probeFrame c src dst ty = probeFrameSpec c.ourMac { kind := ty, pause := 0, src := src, dst := dst } := by
  unfold probeFrame probeFrameSpec lltdHeader
  have : ty = 0 ∨ ty = 1 := by omega
  rcases this with h | h <;> simp [h, be2]

theorem ackFrame_spec (c : Cfg) (st : St) : ackFrame c st = ackFrameSpec c.ourMac st.mapperReal st.mapperApparent st.seq := by
  unfold ackFrame ackFrameSpec lltdHeader
  simp [be2]

theorem sendProbeMsg_count (c : Cfg) (st : St) (w : World) (fx : List Fx) (src dst : Mac) (pause ty : Nat) (ack : Bool) :
    sendCount (sendProbeMsg c st w fx src dst pause ty ack).2 ≤ sendCount fx + 1 + (if ack then 1 else 0) :=
  sendProbeMsg_cases (P := fun r => sendCount r.2 ≤ sendCount fx + 1 + (if ack then 1 else 0)) c st w fx src dst pause ty ack
    (fun _ => Nat.le_trans (Nat.le_add_right _ _) (Nat.le_add_right _ _))
    (fun _ _ => by simp [sendCount, List.filter_append]) (fun _ _ ha => by simp [sendCount, List.filter_append, ha])

theorem emitStep_count (c : Cfg) (st : St) (img : List Nat) (n i : Nat) (w : World) (fx : List Fx) :
    sendCount (emitStep c st img n i w fx).2 ≤ sendCount fx + 1 + (if i + 1 = n then 1 else 0) := by
  unfold emitStep
  split
  · simpa using sendProbeMsg_count c st w fx (slice img (emitOff i + X.offEmiteeSrc) 6) (slice img (emitOff i + X.offEmiteeDst) 6)
      (byteAt img (emitOff i + X.offEmiteePause)) (byteAt img (emitOff i + X.offEmiteeType)) (i + 1 = n)
  · exact Nat.le_trans (Nat.le_add_right _ _) (Nat.le_add_right _ _)

theorem emit_count (c : Cfg) (w : World) (st : St) (img : List Nat) :
    sendCount (parseEmit c w st img).fx ≤ min (unbe (slice img 32 2)) ((c.mtu - 34) / 14) + 1 := by
  refine parseEmit_cases (P := fun o => sendCount o.fx ≤ _) c w st img (fun _ => Nat.zero_le _) (fun _ _ => Nat.zero_le _)
    (fun _ _ n hn => ?_)
  simp only [X.sizeofDemux_val, X.sizeofEmitHdr_val, X.sizeofEmitee_val, show c.mtu - 32 - 2 = c.mtu - 34 by omega] at hn
  -- one transmit per descriptor passed, one more (the ACK) once descriptor `n - 1` has been
  obtain ⟨j, -, hq, hj⟩ := emitLoop_walk (Q := fun j _ fx => sendCount fx ≤ j + 1 ∧ (j < n → sendCount fx ≤ j))
    c (cmdSt st img) img n n 0 w [] (fun j w fx _ _ _ h => by
      have := emitStep_count c (cmdSt st img) img n j w fx
      split at this <;> omega) ⟨Nat.zero_le _, fun _ => Nat.zero_le _⟩
  have hjn : j ≤ n := by rcases hj with ⟨h, -⟩ | ⟨h, -⟩ <;> omega
  exact Nat.le_trans hq.1 (by omega)

/-- the bound clause: whatever count the wire declares, one Emit causes at most (MTU-34)/14 Probe/Train frames + 1 ACK -/
theorem emit_bound (c : Cfg) (w : World) (st : St) (img : List Nat) :
    sendCount (parseEmit c w st img).fx ≤ (c.mtu - 34) / 14 + 1 :=
  Nat.le_trans (emit_count c w st img) (Nat.add_le_add_right (Nat.min_le_right _ _) 1)

/-- non-vacuity: a fault-free world exists -/
example : NoFault {} := ⟨rfl, rfl, rfl, rfl⟩

end LLTD.C06
