/-
  C04 — Hello properties faithfully encode the interface's attributes.
-/
import LLTD.Props.C03
import LLTD.Model.LinuxPort

namespace LLTD.C04
open LLTD LLTD.Spec

/-- value ranges the port API's C types impose on an attribute record -/
structure CfgRange (c : Cfg) : Prop where
  iftype : c.iftype < u32
  speed  : c.speed < u32
  rate   : c.rate < 65536
  mode   : c.mode < 256
  rssiLo : -128 ≤ c.rssi
  rssiHi : c.rssi ≤ 127

/-- signed values keep their sign: int8 → int32 two's complement → big-endian → decoded as int32 -/
theorem rssi_roundtrip (r : Int) (hlo : -128 ≤ r) (hhi : r ≤ 127) : toInt32 (be 4 (i8ToU32 r)) = r := by
  unfold toInt32 i8ToU32
  simp only []
  by_cases hn : r < 0
  · rw [if_pos hn, unbe_be_of_lt 4 _ (by omega), if_pos (by omega)]; omega
  · rw [if_neg hn, unbe_be_of_lt 4 _ (by omega), if_neg (by omega)]; omega

/-- the characteristics word carries the 16 flag bits in its upper half -/
theorem characteristics_word (flags : Nat) : unbe (be 4 ((flags * 65536) % u32)) = (flags % 65536) * 65536 := by
  have hlt : (flags * 65536) % u32 < 256 ^ 4 := by
    have h : (flags * 65536) % u32 < u32 := Nat.mod_lt _ (by decide)
    have e : (256 : Nat) ^ 4 = u32 := by decide
    rw [e]; exact h
  rw [unbe_be_of_lt 4 _ hlt]
  have hu : u32 = 65536 * 65536 := by decide
  rw [hu, Nat.mul_mod_mul_right]

theorem qos_word : unbe (be 4 (((X.qosL2Fwd ||| X.qosPrioTag ||| X.qosVlan) * 65536) % u32)) = 0xE0000000 := by decide

theorem perf_word : unbe (be 8 1000000) = 1000000 := by decide

/-- decoding the property list of the model's Hello yields exactly the interface's attributes — wired or wireless, every
    getter succeeding or failing independently -/
theorem roundtrip (c : Cfg) (g : Glob) (hr : CfgRange c) : decodeAttrs (helloProps c g) = expectedAttrs c g := by
  have hif := unbe_be_ite 4 c.failIfType c.iftype hr.iftype
  have hsp := unbe_be_ite 4 c.failSpeed c.speed hr.speed
  have hra := unbe_be_ite 2 c.failRate c.rate hr.rate
  have hrs : toInt32 (be 4 (i8ToU32 (if c.failRssi = true then 0 else c.rssi))) = if c.failRssi = true then 0 else c.rssi := by
    split
    · decide
    · exact rssi_roundtrip _ hr.rssiLo hr.rssiHi
  have hmo : unbe [c.mode] = c.mode := by simp [unbe]
  have hq : unbe (be 4 (3758096384 % u32)) = 3758096384 := qos_word
  unfold decodeAttrs expectedAttrs helloProps wifiProps
  by_cases hw : c.wifi = true
  · by_cases hb : c.failBssid = true <;>
      simp [hw, hb, tlvGet_cons, tlvGet_nil, hq, perf_word, characteristics_word, hif, hsp, hra, hrs, hmo, Cfg.ourMac, zeros]
  · simp [hw, tlvGet_cons, tlvGet_nil, hq, perf_word, characteristics_word, hif, hsp, Cfg.ourMac, zeros]

/-- wireless properties appear only on wireless interfaces -/
theorem wifi_gate (c : Cfg) (g : Glob) (hw : c.wifi = false) :
    ∀ p ∈ helloProps c g, p.1 ≠ 4 ∧ p.1 ≠ 5 ∧ p.1 ≠ 6 ∧ p.1 ≠ 9 ∧ p.1 ≠ 13 := by
  intro p hp
  have hm : p.1 ∈ (helloProps c g).map (·.1) := List.mem_map.mpr ⟨p, hp, rfl⟩
  have ht : (helloProps c g).map (·.1) = [1, 2, 3, 7, 8, 10, 12, 15, 20, 14, 17] := by simp [helloProps, wifiProps, hw]
  rw [ht] at hm
  simp at hm
  omega

/-- `roundtrip` from the bytes of a whole Hello frame (independent decoder) -/
theorem hello_attrs (c : Cfg) (g : Glob) (gen tos : Nat) (cur app : Mac) (hc : CfgOk c) (hr : CfgRange c)
    (h1 : cur.length = 6) (h2 : app.length = 6) :
    (decodeHello (helloFrame c g gen tos cur app)).map (fun h => decodeAttrs h.tlvs) = some (expectedAttrs c g) := by
  rw [decodeHello_helloFrame c g gen tos cur app hc h1 h2]
  simp [roundtrip c g hr]

/-- the property predicate holds of the model's reaction to every accepted Discover -/
theorem bridge (c : Cfg) (g : Glob) (w : World) (st : St) (img : List Nat) (hc : CfgOk c) (hr : CfgRange c)
    (hd : isDiscover img = true) (hacc : mapperMatches st (fRealSrc img) = true) (hm : (w.malloc c.mtuEff).2 = true) :
    holdsC04Rx (obsOf c g img (parseFrameSt c g w st img).fx) = true := by
  obtain ⟨hl, -⟩ := (isDiscover_iff img).mp hd
  obtain ⟨h1, h2⟩ := fAddr_length img hl
  have hsends := C03.sent_accepted c g w st img hc hd hacc hm
  unfold holdsC04Rx helloReplies
  rw [hsends]
  simp only [List.filterMap_cons, List.filterMap_nil, decodeHello_helloFrame c g _ _ _ _ hc h1 h2, List.all_cons, List.all_nil, Bool.and_true]
  simp [roundtrip c g hr, obsOf]

/-- what the Linux port supplies is the interface record without distortion: address, MTU and type copied, link
    speed in units of 100 bit/s, duplex and loopback mapped to their characteristics bits — for every record -/
theorem linux_port (r : LinuxPort.Rec) :
    let s := LinuxPort.supplied r
    s.mac = r.mac ∧ s.mtu = r.mtu ∧ s.ifType = r.ifType ∧ s.speed100 * 100 ≤ r.linkSpeed ∧ r.linkSpeed < (s.speed100 + 1) * 100 ∧
    (s.flags / 0x2000 % 2 = 1 ↔ r.mediumType / 16 % 2 = 1) ∧ (s.flags / 0x800 % 2 = 1 ↔ r.flags / 8 % 2 = 1) ∧
    s.flags % 0x800 = 0 ∧ s.flags < 0x4000 := by
  have h1 := Nat.div_mul_le_self r.linkSpeed 100
  have h2 := Nat.lt_div_mul_add (a := r.linkSpeed) (b := 100) (by decide)
  simp only [LinuxPort.supplied]
  -- the two bits do not overlap: the four combinations by evaluation
  by_cases hd : r.mediumType / 16 % 2 = 1 <;> by_cases hl : r.flags / 8 % 2 = 1 <;> simp only [hd, hl, if_true, if_false] <;>
    exact ⟨trivial, trivial, trivial, h1, by omega, by decide, by decide, by decide, by decide⟩

/-- the characteristics word the Linux port's bits end up as in the Hello (upper half of the 32-bit word) -/
theorem linux_flags_in_hello (r : LinuxPort.Rec) :
    unbe (be 4 (((LinuxPort.supplied r).flags * 65536) % u32)) = (LinuxPort.supplied r).flags * 65536 := by
  rw [characteristics_word]
  obtain ⟨-, -, -, -, -, -, -, -, hlt⟩ := linux_port r
  rw [Nat.mod_eq_of_lt (by omega)]

/-- non-vacuity: a Wi-Fi record with a negative signal strength -/
example : CfgRange { wifi := true, rssi := -60, rate := 108, mode := 1, iftype := 71, speed := 540000 } :=
  ⟨by decide, by decide, by decide, by decide, by decide, by decide⟩

end LLTD.C04
