/-
  C02 — Only well-formed, solicited, bounded frames ever leave the responder.
  Every frame shape the model can transmit, checked with the independent decoder; which requests cause
  transmits; how many.  Determinism clause: the model has no input that carries the content of freshly
  allocated memory (transmit buffers are built from the request, the state and the attributes only), so the
  clause is structural in the model; that the C code zero-fills before it builds is what the two-poison
  correspondence run of this check observes.
-/
import LLTD.Lemmas.Decode
import LLTD.Lemmas.Sends

namespace LLTD.C02
open LLTD LLTD.Spec

/-- the Hello is a well-formed LLTD frame: parses to its end marker, host identifier first, legal lengths, no type twice -/
theorem hello_wellFormed (c : Cfg) (g : Glob) (gen tos : Nat) (cur app : Mac) (hc : CfgOk c) (hmac : c.failMac = false)
    (h1 : cur.length = 6) (h2 : app.length = 6) :
    wellFormed c.mac c.mtu (helloFrame c g gen tos cur app) = true := by
  have hm := ourMac_length c hc
  have h14 := helloHeader_length gen cur app h1 h2
  have htl := helloTlvs_length_le c g hc
  have hlo := hc.mtuLo
  have hfit : 32 + (helloHeader gen cur app ++ helloTlvs c g).length ≤ c.mtu := by rw [List.length_append, h14]; omega
  rw [helloFrame_eq, ourMac_eq c hmac, wellFormed_lltdHeader rfl hc.mac6 rfl hc.mac6, decide_eq_true hfit,
    if_neg (by decide), if_neg (by decide), if_neg (by decide), if_pos X.opHello_val, helloTlvs_eq, ← ourMac_eq c hmac, Bool.true_and]
  exact helloWellFormed_payload _ _ _ (lltdHeader_length rfl hm rfl hm) h14 ⟨c.ourMac, _, rfl⟩ (helloProps_lengths c g hc) (helloTypes_noDup c g)

/-- Probe, Train and ACK: a bare demultiplex header with the responder as real source -/
theorem bare_wellFormed (c : Cfg) {ed es rd : Mac} {seq op : Nat} (hc : CfgOk c) (hop : op = 3 ∨ op = 4 ∨ op = 5)
    (h1 : ed.length = 6) (h2 : es.length = 6) (h3 : rd.length = 6) :
    wellFormed c.mac c.mtu (lltdHeader 0 ed es rd c.mac seq op X.tosDiscovery) = true := by
  have hfit : 32 + ([] : List Nat).length ≤ c.mtu := Nat.le_trans (by decide) hc.mtuLo
  rw [← List.append_nil (lltdHeader _ _ _ _ _ _ _ _), wellFormed_lltdHeader h1 h2 h3 hc.mac6, if_pos hop, decide_eq_true hfit]
  rfl

theorem probe_wellFormed (c : Cfg) (src dst : Mac) (ty : Nat) (hc : CfgOk c) (hmac : c.failMac = false)
    (h1 : src.length = 6) (h2 : dst.length = 6) : wellFormed c.mac c.mtu (C06.probeFrame c src dst ty) = true := by
  rw [C06.probeFrame, ourMac_eq c hmac]
  exact bare_wellFormed c hc (by split <;> simp) h2 h1 h2

theorem ack_wellFormed (c : Cfg) (st : St) (hc : CfgOk c) (hmac : c.failMac = false) (hi : St.Inv st) :
    wellFormed c.mac c.mtu (C06.ackFrame c st) = true := by
  rw [C06.ackFrame, ourMac_eq c hmac]
  exact bare_wellFormed c hc (by decide) hi.app hc.mac6 hi.real

/-- a QueryResp built by the model has exactly the length its descriptor count prescribes; that this length fits the MTU is
    assumed here (`hfit`) and shown of the count parseQuery chooses in `C02H.queryResp_wf` -/
theorem query_wellFormed (c : Cfg) (img : List Nat) (seq n : Nat) (more : Bool) (obs : List Obs) (hc : CfgOk c) (hmac : c.failMac = false)
    (him : ImgOk img) (hobs : ∀ o ∈ obs, ObsOk o) (hn : obs.length = n) (hfit : 34 + 20 * n ≤ c.mtu) (hcap : n < 16384) :
    wellFormed c.mac c.mtu (queryFrame c img seq n more (obs.flatMap obsWire)) = true := by
  have hd := respDest_length img him
  obtain ⟨hlt, hlow, -⟩ := countWord n more hcap
  have hlen := length_flatMap_const obsWire 20 obs (fun o ho => obsWire_length o (hobs o ho))
  rw [queryFrame_eq, ourMac_eq c hmac, wellFormed_lltdHeader hd hc.mac6 hd hc.mac6,
    if_neg (show ¬(X.opQueryResp = 3 ∨ X.opQueryResp = 4 ∨ X.opQueryResp = 5) by decide), if_pos X.opQueryResp_val,
    slice_prefix _ _ _ (by rw [be_length]), unbe_be_of_lt 2 _ hlt, hlow, List.length_append, be_length, hlen, hn]
  simp only [Bool.and_eq_true, decide_eq_true_eq, beq_iff_eq]
  omega

/-- a QueryLargeTlvResp built by the model has exactly the length its length field prescribes -/
theorem large_wellFormed (c : Cfg) (dest : Mac) (seq lenField : Nat) (payload : List Nat) (hc : CfgOk c) (hmac : c.failMac = false)
    (hd : dest.length = 6) (hf : lenField < 65536) (hp : payload.length = lenField % 16384) (hfit : 34 + payload.length ≤ c.mtu) :
    wellFormed c.mac c.mtu (largeFrame c dest seq lenField payload) = true := by
  rw [largeFrame_eq, ourMac_eq c hmac, wellFormed_lltdHeader hd hc.mac6 hd hc.mac6,
    if_neg (by decide), if_neg (by decide), if_pos X.opQltlvResp_val,
    slice_prefix _ _ _ (by rw [be_length]), unbe_be_of_lt 2 _ (by omega), List.length_append, be_length, ← hp]
  simp; omega

theorem silent_of_kind (c : Cfg) (g : Glob) (w : World) (st : St) (img : List Nat) (hd : reqOf img ≠ .discover)
    (he : reqOf img ≠ .emit) (hq : reqOf img ≠ .query) (hl : reqOf img ≠ .large) :
    C06.sendCount (parseFrameSt c g w st img).fx = 0 := by
  rw [parseFrameSt_req]
  cases hr : reqOf img <;> simp only [reactTo]
  case discover => exact absurd hr hd
  case emit => exact absurd hr he
  case query => exact absurd hr hq
  case large => exact absurd hr hl
  case probe => rw [parseProbe_fx]; rfl
  all_goals rfl

/-- frames are sent only in reaction to a request: a frame that is no Discover / Emit / Query / QueryLargeTlv of a
    discovery service causes no transmit (Hello, Probe, Train, ACK, responses, Reset, Charge, Flat, unknown opcodes,
    and every opcode of every other service) -/
theorem unsolicited_silent (c : Cfg) (g : Glob) (w : World) (st : St) (img : List Nat)
    (h : ¬ (fTos img = 0 ∧ (fOpcode img = 0 ∨ fOpcode img = 2 ∨ fOpcode img = 6 ∨ fOpcode img = 11)) ∧
         ¬ (fTos img = 1 ∧ (fOpcode img = 0 ∨ fOpcode img = 11))) :
    C06.sendCount (parseFrameSt c g w st img).fx = 0 := by
  refine silent_of_kind c g w st img (fun hr => ?_) (fun hr => ?_) (fun hr => ?_) (fun hr => ?_)
  · obtain ⟨t | t, o⟩ := (reqOf_discover img).mp hr
    · exact h.1 ⟨t, .inl o⟩
    · exact h.2 ⟨t, .inl o⟩
  · obtain ⟨t, o⟩ := (reqOf_emit img).mp hr; exact h.1 ⟨t, .inr (.inl o)⟩
  · obtain ⟨t, o⟩ := (reqOf_query img).mp hr; exact h.1 ⟨t, .inr (.inr (.inl o))⟩
  · obtain ⟨t | t, o⟩ := (reqOf_large img).mp hr
    · exact h.1 ⟨t, .inr (.inr (.inr o))⟩
    · exact h.2 ⟨t, .inr o⟩

/-- at most one frame per Discover / Query / QueryLargeTlv -/
theorem answerHello_count (c : Cfg) (g : Glob) (w : World) (st : St) (img : List Nat) : C06.sendCount (answerHello c g w st img).fx ≤ 1 := by
  rw [sendCount_eq]
  rcases answerHello_sent c g w st img with h | h <;> rw [h] <;> simp

theorem parseQuery_count (c : Cfg) (w : World) (st : St) (img : List Nat) : C06.sendCount (parseQuery c w st img).fx ≤ 1 :=
  parseQuery_cases (P := fun o => C06.sendCount o.fx ≤ 1) c w st img (fun _ => Nat.zero_le _) (fun _ _ => Nat.zero_le _)
    (fun _ _ _ _ _ _ => Nat.le_refl _)

theorem parseQueryLargeTlv_count (c : Cfg) (g : Glob) (w : World) (st : St) (img : List Nat) :
    C06.sendCount (parseQueryLargeTlv c g w st img).fx ≤ 1 := by
  rw [sendCount_eq]
  rcases parseQueryLargeTlv_sent c g w st img with h | ⟨d, h⟩ <;> rw [h] <;> simp

/-- non-vacuity: the well-formedness predicate rejects a frame with a wrong real source -/
example : wellFormed [2,0,0,0,0,1] 1500 ([255,255,255,255,255,255, 2,0,0,0,0,1, 0x88,0xd9, 1,0,0,4, 2,0,0,0,0,9, 2,0,0,0,0,7, 0,0]) = false := by decide

end LLTD.C02
