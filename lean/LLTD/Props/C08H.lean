/-
  C08 — the history form, on a fault-free platform: the one frame answering a QueryLargeTlv (`large_fx`) decodes to the chunk
  at P = MTU − 34 of the data the specification expects (`decode_chunk`, `specData`); the icon is the one cached at its first
  request since the last Reset, which `Ref` ties to the specification's cache.
-/
import LLTD.Lemmas.History
import LLTD.Props.C08

namespace LLTD.C08H
open LLTD LLTD.Spec

/-- the platform's bytes the specification expects for a request of type `ty` -/
def largeData (g : Glob) (cache : Option (List Nat)) (ty : Nat) : List Nat :=
  if ty = 14 then (match cache with | some c => c | none => match g.icon with | some d => d | none => [])
  else if ty = 17 then (match g.fname with | some d => d | none => [])
  else if ty = 19 then g.hwid else []

theorem respond_nf (c : Cfg) (img : List Nat) (off : Nat) (f : Fetched) (hc : CfgOk c) (hm : c.failMtu = false) (hw : NoFault f.w) :
    (respond c img off f).fx =
      [Fx.send true c.idx (largeFrame c (respDest img) f.st.seq (respFields (c.mtu - 34) (some (f.data.getD [])) off).2
        (slice (f.data.getD []) off (respFields (c.mtu - 34) (some (f.data.getD [])) off).1))] := by
  refine respond_cases (P := fun o => o.fx = _) c img off f (fun h => ?_) (fun _ => ?_)
  · rw [malloc_nf f.w _ hw] at h; exact Bool.noConfusion h
  · rw [send_nf _ (nf_of_sched hw (malloc_sched f.w _)), largePayload_eq c hc hm, ← respFields_getD]

theorem largeFetch_data (g : Glob) (w : World) (st : St) (ty : Nat) (hw : NoFault w)
    (hwf : ty = 19 → hwIdWellFormed g.hwid = true) :
    (largeFetch g w st ty).data.getD [] = largeData g st.icon ty := by
  -- what `iconFill` puts into an empty cache is the platform's icon, when there is one
  have hfill : (iconFill g none).getD [] = largeData g none 14 := by
    unfold iconFill largeData
    rw [if_pos rfl]
    rcases g.icon with _ | _ | _
    · rfl
    · cases g.emptyBlock <;> rfl
    · rfl
  refine largeFetch_cases (P := fun f => f.data.getD [] = largeData g st.icon ty) g w st ty ?_ ?_ ?_ ?_ ?_ ?_ ?_ ?_
  · intro ic hi h; simp [largeData, hi, h]
  · intro d hi h hf; rw [h, hi, X.tlvIconImage_val, ← hfill, hf]
  · intro hi h hf; rw [h, hi, X.tlvIconImage_val, ← hfill, hf]
  · intro d hf _ hg; simp [largeData, hf, hg]
  · intro hf hg; rcases hn : g.fname with _ | d <;> simp [hn] at hg <;> simp [largeData, hf, hn, hg]
  · intro hh _; simp [largeData, hh, C08.hwid_exact g (hwf (by simp [hh]))]
  · intro _ hm; rw [malloc_nf w 64 hw] at hm; exact Bool.noConfusion hm
  · intro t14 t17 t19; simp at t14 t17 t19; simp [largeData, t14, t17, t19]

theorem large_fx (c : Cfg) (g : Glob) (w : World) (st : St) (img : List Nat) (hc : CfgOk c) (hm : c.failMtu = false) (hw : NoFault w)
    (hs : LLTD.fSeq img ≠ 0) (hwf : byteAt img 32 = 19 → hwIdWellFormed g.hwid = true) :
    let d := largeData g st.icon (byteAt img 32)
    let off := unbe (slice img 34 2)
    (parseQueryLargeTlv c g w st img).fx =
      [Fx.send true c.idx (largeFrame c (respDest img) (LLTD.fSeq img) (respFields (c.mtu - 34) (some d) off).2
        (slice d off (respFields (c.mtu - 34) (some d) off).1))] := by
  simp only []
  have hd := largeFetch_data g w (cmdSt st img) (byteAt img 32) hw hwf
  have hq : (largeFetch g w (cmdSt st img) (byteAt img 32)).st.seq = (cmdSt st img).seq := by rw [largeFetch_st]
  have hf := (sched_largeFetch w g w (cmdSt st img) (byteAt img 32)).mpr (sched_refl w)
  rw [parseQueryLargeTlv_eq, if_neg hs]
  simp only [X.sizeofDemux_val, X.offQltlvType_val, X.offQltlvOffset_val, Nat.add_zero, show 32 + 2 = 34 from rfl]
  rw [respond_nf c img _ _ hc hm (nf_of_sched hw hf), hd, hq, (cmdSt_ret st img).2]
  simp only [cmdSt, setActive_seq]

/-- the frame built from `respFields` at payload size `p` reads back (independent decoder) as the specification's chunk; it fits the
    MTU when 34 + `p` does -/
theorem decode_chunk (c : Cfg) (dest : Mac) (seq p : Nat) (d : List Nat) (off : Nat) (hc : CfgOk c) (hd : dest.length = 6)
    (hp : p < 16384) (hfit : 34 + p ≤ c.mtu) :
    decodeLargeResp (largeFrame c dest seq (respFields p (some d) off).2 (slice d off (respFields p (some d) off).1)) =
        some { base := { ethDst := dest, ethSrc := c.ourMac, etherType := 0x88D9, version := 1, tos := X.tosDiscovery, reserved := 0,
                         opcode := X.opQltlvResp, realDst := dest, realSrc := c.ourMac, seq := seq % 65536 },
               more := (chunk p d off).2, payload := (chunk p d off).1 } ∧
      (largeFrame c dest seq (respFields p (some d) off).2 (slice d off (respFields p (some d) off).1)).length ≤ c.mtu := by
  have hm6 := ourMac_length c hc
  obtain ⟨-, -, f3, f4⟩ := C08.fields_spec p hp d off
  obtain ⟨hpl, hle⟩ := C08.respFields_payload p hp d off
  constructor
  · rw [decodeLargeResp_largeFrame c dest seq _ _ hc hd (respFields_lt _ _ _) hpl, f3]
    unfold slice; rw [f4]
  · rw [largeFrame_eq, List.length_append, List.length_append, lltdHeader_length hd hm6 hd hm6, be_length, hpl]
    omega

/-- the data the specification expects (`none`: an identifier outside the port contract) is the platform's -/
theorem specData (g : Glob) (cache : Option (List Nat)) (ty : Nat) (d : List Nat) (hwf : ty = 19 → hwIdWellFormed g.hwid = true)
    (h : (if ty = 0x0E then some (match cache with | some c => c | none => match g.icon with | some d => d | none => [])
          else if ty = 0x11 then some (match g.fname with | some d => d | none => [])
          else if ty = 0x13 then (if hwIdWellFormed g.hwid then some g.hwid else none)
          else some []) = some d) : d = largeData g cache ty := by
  unfold largeData
  by_cases t14 : ty = 14
  · rw [if_pos t14] at h ⊢; exact (Option.some.inj h).symm
  rw [if_neg t14] at h ⊢
  by_cases t17 : ty = 17
  · rw [if_pos t17] at h ⊢; exact (Option.some.inj h).symm
  rw [if_neg t17] at h ⊢
  by_cases t19 : ty = 19
  · rw [if_pos t19, if_pos (hwf t19)] at h; rw [if_pos t19]; exact (Option.some.inj h).symm
  · rw [if_neg t19] at h ⊢; exact (Option.some.inj h).symm

theorem step_holds (c : Cfg) (g : Glob) (w : World) (st : St) (img : List Nat) (s : SpecSt)
    (hc : CfgOk c) (hm : c.failMtu = false) (hmac : c.failMac = false) (hw : NoFault w) (hi : St.Inv st) (him : ImgOk img) (hr : Ref st s) :
    holdsC08Rx s (obsOf c g img (parseFrameSt c g w st img).fx) = true := by
  unfold holdsC08Rx
  simp only [obsOf_frame, obsOf_cfg, obsOf_glob, sends_obsOf, spec_fSeq]
  refine guarded (fun hq => ?_) fun hq => ?_
  · rw [List.isEmpty_iff]
    exact no_largeResp c g w st img hc hi him (Bool.eq_false_iff.mp hq)
  · rw [parseFrameSt_req, (isLarge_iff img him.len).mp hq, reactTo]
    by_cases hs : LLTD.fSeq img = 0
    · rw [if_pos hs, parseQueryLargeTlv_eq, if_pos hs]; rfl
    rw [if_neg hs]
    by_cases hwf : byteAt img 32 = 19 → hwIdWellFormed g.hwid = true
    · split
      · rfl
      · next d heq =>
        -- one frame, carrying the chunk of the very data the specification expects
        obtain rfl := specData g s.iconCache _ d hwf heq
        have hfx := large_fx c g w st img hc hm hw hs hwf
        simp only [] at hfx
        obtain ⟨hdec, hlen⟩ := decode_chunk c (respDest img) (LLTD.fSeq img) (c.mtu - 34) (largeData g st.icon (byteAt img 32))
          (unbe (slice img 34 2)) hc (respDest_length img him) (by have := hc.mtuHi; omega) (by have := hc.mtuLo; omega)
        rw [hr.icon, hfx, sentFrames_send]
        simp only [hdec, Nat.mod_eq_of_lt (fSeq_lt img him), ourMac_eq c hmac, beq_self_eq_true, Bool.and_true]
        exact Bool.and_eq_true_iff.mpr ⟨decide_eq_true hlen, beq_iff_eq.mpr (respDest_spec img)⟩
    · -- a hardware identifier outside the port contract: unconstrained
      obtain ⟨h19, hbad⟩ := Classical.not_imp.mp hwf
      simp [h19, hbad]

/-- the interface's attributes (MTU included: a walk continues correctly after the MTU changed) and the process-wide data
    changing freely from frame to frame -/
theorem history_varying (own : List Nat) (items : List (Cfg × Glob × List Nat)) (hitems : ∀ it ∈ items, ItemOk own it) (w : World) (hw : NoFault w) :
    holdsC08 own (C05.runObsV w {} items) = true :=
  fresh_historyV own holdsC08Rx (ItemOk own) (fun _ h => h) (fun c g w st img s _ => step_holds c g w st img s) items hitems w hw

theorem history (c : Cfg) (g : Glob) (hc : CfgOk c) (hm : c.failMtu = false) (hmac : c.failMac = false)
    (imgs : List (List Nat)) (himgs : ∀ img ∈ imgs, ImgOk img) (w : World) (hw : NoFault w) :
    holdsC08 c.mac (C05.runObs c g w {} imgs) = true :=
  runObs_eq_runObsV c g imgs w {} ▸ history_varying c.mac _ (itemOk_const c g hc hm hmac imgs himgs) w hw

/-- `C08.reassemble_all` again, beside the history theorem: a mapper fed the specification's chunks reassembles the platform's
    bytes; that each request of such a walk is answered with that chunk is `history` -/
theorem walk_exact (p : Nat) (hp : 0 < p) (data : List Nat) : reassemble p data (data.length + 1) 0 = data :=
  C08.reassemble_all p hp data

end LLTD.C08H
