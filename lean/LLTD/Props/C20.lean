/-
  C20 — The protocol core reaches the outside world only through the port API.
  A finite statement about build products: the tables in Generated/Symbols.lean are produced by tools/props/c20.py from the
  working tree on every run (15 native compiler configurations with `ld -r` + `nm -u`, 6 cross-target ones — Apple hosted,
  32-bit x86, bare-metal ARM — with `llvm-nm`; the declarators of the preprocessed lltdPort.h; include lines; the lint's two
  regexes).  The translator carries the weight and is in the trusted base.
-/
import LLTD.Generated.Symbols

namespace LLTD.C20

/-- memory primitives a C compiler may emit by itself -/
def memPrims : List String := ["memcpy", "memset", "memmove", "memcmp"]

/-- compiler runtime (libgcc / compiler-rt / linker) symbols -/
def compilerRt : List String :=
  ["__stack_chk_fail", "__stack_chk_guard", "_GLOBAL_OFFSET_TABLE_", "__udivdi3", "__umoddi3", "__divdi3", "__moddi3",
   "__muldi3", "__ashldi3", "__lshrdi3", "__ashrdi3", "__udivmoddi4", "__bswapsi2", "__bswapdi2",
   -- ARM EABI run-time helpers (bare-metal ARM configuration)
   "__aeabi_memcpy", "__aeabi_memcpy4", "__aeabi_memcpy8", "__aeabi_memmove", "__aeabi_memmove4", "__aeabi_memmove8", "__aeabi_memset", "__aeabi_memset4",
   "__aeabi_memset8", "__aeabi_memclr", "__aeabi_memclr4", "__aeabi_memclr8", "__aeabi_uldivmod", "__aeabi_ldivmod", "__aeabi_uidiv", "__aeabi_uidivmod",
   "__aeabi_idiv", "__aeabi_idivmod", "__aeabi_lmul", "__aeabi_llsl", "__aeabi_llsr", "__aeabi_lasr"]

/-- headers a freestanding C implementation provides -/
def freestandingHeaders : List String :=
  ["stdbool.h", "stddef.h", "stdint.h", "stdarg.h", "limits.h", "float.h", "iso646.h", "stdalign.h", "stdnoreturn.h"]

def symbolOk (s : String) : Bool := Sym.portApi.contains s || memPrims.contains s || compilerRt.contains s

/-- all twenty-one configurations (fifteen native incl. -O3 / -Ofast, six for other targets the repository has ports for) produced a symbol table -/
theorem configurations : Sym.undef.length = 21 := by decide

/-- every undefined symbol of the relocatably linked core, under every configuration, is a port function,
    a memory primitive or compiler runtime -/
theorem symbols : Sym.undef.all (fun c => c.2.all symbolOk) = true := by decide +kernel

/-- the core includes only freestanding standard headers (and its own) -/
theorem includes : Sym.angleIncludes.all (fun f => f.2.all freestandingHeaders.contains) = true := by decide +kernel

/-- no OS-specific macro or header anywhere in the core (the repository's lint rule) -/
theorem no_os_tokens : Sym.osTokens.all (fun f => f.2.isEmpty) = true := by decide

/-- the port API is not empty (non-vacuity of `symbols`) -/
theorem port_api_nonempty : Sym.portApi.contains "lltd_port_send_frame" = true ∧ Sym.portApi.contains "lltd_port_malloc" = true := by
  simp [Sym.portApi]

end LLTD.C20
