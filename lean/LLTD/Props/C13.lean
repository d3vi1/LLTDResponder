/-
  C13 — RepeatBand back-off follows its formula and is monotone in load.
  The model computes in the code's widths (uint64_t products, saturation,
  final uint32_t store); the statements use unbounded arithmetic and the
  documented constants NMAX = 10000, ALPHA = 45, BETA = 2.
-/
import LLTD.Model.Automata
import LLTD.Spec.Automata
import LLTD.Lemmas.XVals
import LLTD.Lemmas.Tick

namespace LLTD.C13
open LLTD LLTD.Spec

theorem constants : X.bandNmax = 10000 ∧ X.bandAlpha = 45 ∧ X.bandBeta = 2 ∧ X.bandGamma = 10 ∧ X.bandTxc = 4 ∧
    X.bandBlockTime = 300 ∧ X.bandMulFrame1 = 6 :=
  ⟨X.bandNmax_val, X.bandAlpha_val, X.bandBeta_val, X.bandGamma_val, X.bandTxc_val, X.bandBlockTime_val, X.bandMulFrame1_val⟩

/-- the repetition count computed in 64 bits with saturation equals min(NMAX, ALPHA·r²) — for every r a uint32_t can hold -/
theorem formula (r : Nat) (h32 : r < u32) : bandNewNi r = niFormula r := by
  have hq : r * r % u64 = r * r := Nat.mod_eq_of_lt (Nat.mul_lt_mul'' h32 h32 : r * r < u32 * u32)
  simp only [bandNewNi, niFormula, satPowLoop, X.bandBeta_val, X.bandNmax_val, X.bandAlpha_val, hq, Nat.pow_two]
  generalize r * r = q
  by_cases hs : q > 10000
  · -- the square saturates, and ALPHA · NMAX is above NMAX
    rw [if_pos hs, if_pos (by decide)]; omega
  · -- it does not: ALPHA · q ≤ 450000 wraps neither in the 64-bit product nor in the 32-bit store
    rw [if_neg hs, Nat.mod_eq_of_lt (by simp only [u64]; omega), Nat.mod_eq_of_lt (by simp only [u32]; omega)]
    split <;> omega

/-- the count always stays within [ALPHA, NMAX] once r > 0 -/
theorem range (r : Nat) (h : 0 < r) : 45 ≤ niFormula r ∧ niFormula r ≤ 10000 := by
  have hpos : 1 ≤ r ^ 2 := Nat.pow_pos h
  unfold niFormula; omega

/-- band_update_stats meets the property predicate for every prior state (r any uint32_t, begun or not) -/
theorem update (pre : Band) (hr : pre.r < u32) (now : Nat) : holdsC13Update pre (bandUpdateStats pre now) = true := by
  unfold holdsC13Update bandUpdateStats
  by_cases hc : pre.r > 0 ∧ pre.begun = true
  · simp only [if_pos hc, formula pre.r hr, decide_true, Bool.true_and]
    split
    · simp [range pre.r hc.1]
    · rfl
  · simp only [if_neg hc, decide_true, Bool.true_and]
    split
    · next h => simp [h]
    · rfl

/-- r = 0 or enumeration not begun: the count is untouched; in every case the hello counter restarts and
    the next block ends BLOCK_TIME (300 ms) later -/
theorem noop (pre : Band) (now : Nat) :
    (pre.r = 0 ∨ pre.begun = false → (bandUpdateStats pre now).ni = pre.ni) ∧
    (bandUpdateStats pre now).r = 0 ∧ (bandUpdateStats pre now).blockTs = now + 300 := by
  refine ⟨?_, rfl, congrArg (now + ·) X.bandBlockTime_val⟩
  intro h
  have : ¬(pre.r > 0 ∧ pre.begun = true) := by
    rcases h with h | h
    · omega
    · simp [h]
  simp only [bandUpdateStats, if_neg this]

/-- hearing more Hellos in a block never yields a smaller count -/
theorem mono (r1 r2 : Nat) : holdsC13Mono r1 (niFormula r1) r2 (niFormula r2) = true := by
  unfold holdsC13Mono
  by_cases h : r1 ≤ r2
  · have : r1 ^ 2 ≤ r2 ^ 2 := Nat.pow_le_pow_left h 2
    rw [if_pos h]; exact decide_eq_true (by unfold niFormula; omega)
  · rw [if_neg h]

/-- ceiling division by 30, in the shape `bandInterval` computes it -/
theorem ceil30 (n : Nat) : n / 30 + (if n % 30 ≠ 0 then 1 else 0) = (n + 29) / 30 := by
  split <;> omega

/-- the scheduled interval is exactly max(frame floor, ⌈TXC·Ni·(20/3)/GAMMA⌉) ms -/
theorem interval (ni : Nat) : bandInterval ni = max 6 (loadInterval ni) := by
  simp only [bandInterval, loadInterval, X.bandTxc_val, X.bandGamma_val, X.bandMulFrame1_val, Nat.reduceMul, ceil30]
  split <;> omega

/-- a larger count never gives a shorter interval -/
theorem interval_mono (n1 n2 : Nat) (h : n1 ≤ n2) : bandInterval n1 ≤ bandInterval n2 := by
  rw [interval, interval]
  have : loadInterval n1 ≤ loadInterval n2 := Nat.div_le_div_right (by omega)
  omega

/-- band_choose_hello_time meets the property predicate: never sooner than the load formula allows -/
theorem choose (pre : Band) (now : Nat) : holdsC13Choose pre (bandChooseHelloTime pre now) now = true := by
  unfold holdsC13Choose bandChooseHelloTime
  simp only [interval]
  have : now + max 6 (loadInterval pre.ni) ≥ now + loadInterval pre.ni := by omega
  simp [this]

/-- what the tick's block-end branch (`enumBlock`) computes: the next Hello is re-scheduled from the count band_update_stats has
    just stored, not from the old one (that the tick as a whole meets the predicate: `tick_schedule`) -/
theorem tick_block (b : Band) (now : Nat) :
    (bandChooseHelloTime (bandUpdateStats b now) now).helloTs = now + bandInterval (bandUpdateStats b now).ni ∧
    (bandChooseHelloTime (bandUpdateStats b now) now).ni = (bandUpdateStats b now).ni := ⟨rfl, rfl⟩

/-- every Hello heard is counted: r increases by exactly one (no narrower counter, no wrap below 2^32) -/
theorem heard (pre : Band) (hr : pre.r < u32) : holdsC13Heard pre (bandOnHelloReceived pre) = true := by
  unfold holdsC13Heard bandOnHelloReceived
  have hu : u32 = 4294967296 := rfl
  by_cases hmax : pre.r = 4294967295
  · simp [hmax]
  · have hlt : pre.r + 1 < u32 := by omega
    simp [Nat.mod_eq_of_lt hlt]

/-! ## The tick itself

The clock may move while the tick runs (`tickR`: the block is judged over at the reading taken on entry, `nowMs`; what is
scheduled is scheduled from a later reading, `nowL`).  The tick with a standing clock is the case `nowL = nowMs`. -/

theorem tickR_same (s : TickState) (port : PortMode) (n : Nat) : tickR s port n (n / 1000) n = tick s port n := rfl

/-- what the steps of the tick before the block end may have done to the band: nothing the block end reads, except start
    the enumeration -/
structure Same (b bh : Band) : Prop where
  r : bh.r = b.r
  ni : bh.ni = b.ni
  blockTs : bh.blockTs = b.blockTs
  begun : b.begun = true → bh.begun = true

theorem same_ite {b x y : Band} {c : Prop} [Decidable c] (hx : Same b x) (hy : Same b y) : Same b (if c then x else y) := by
  split <;> assumption

theorem enumHelloR_same (e : Fsm) (b : Band) (lastTx0 : Nat) (port : PortMode) (nowMs nowL : Nat) :
    Same b (enumHelloR e b lastTx0 port nowMs nowL).2.1 := by
  -- the band that comes out as a conditional over bands: the projection goes through the `if`s and the port drops out.
  -- `bandDoHello` is unfolded before the leaves are compared: `rfl` on a field of the folded term evaluates the interval
  simp only [enumHelloR, apply_ite Prod.snd, apply_ite Prod.fst, bandDoHello, bandChooseHelloTime]
  refine same_ite (same_ite ?_ (same_ite ?_ ?_)) ?_
  · exact ⟨rfl, rfl, rfl, id⟩
  · exact ⟨rfl, rfl, rfl, fun _ => rfl⟩
  · exact ⟨rfl, rfl, rfl, fun _ => rfl⟩
  · exact ⟨rfl, rfl, rfl, id⟩

/-- no block ended: the deadline is the old one, or disarmed -/
theorem holdsC13Tick_idle (pre post : Band) (n : Nat) (h : post.blockTs = pre.blockTs ∨ post.blockTs = 0) :
    holdsC13Tick pre post n = true := by
  unfold holdsC13Tick; rw [if_neg]; rintro ⟨h1, h2⟩; omega

theorem holdsC13Tick_blockEnd (b bh : Band) (n : Nat) (hr : b.r < u32) (h : Same b bh) :
    holdsC13Tick b (bandChooseHelloTime (bandUpdateStats bh n) n) n = true := by
  have hint : ∀ x, loadInterval x ≤ bandInterval x := fun x => by rw [interval]; omega
  have hni : (bandUpdateStats bh n).ni = if bh.r > 0 ∧ bh.begun = true then niFormula b.r else b.ni := by
    simp only [bandUpdateStats, h.r, h.ni, formula b.r hr]
  simp only [holdsC13Tick, bandChooseHelloTime, hni]
  -- the Hello branch of the same tick may have begun the enumeration (`bh.begun` without `b.begun`): then the count follows the
  -- formula although the predicate does not demand it, which its clause `ni = niFormula r ∨ ni = pre.ni` allows
  by_cases hc : b.r > 0 ∧ b.begun = true
  · simp [bandUpdateStats, h.r, hc, h.begun hc.2, hint]
  · by_cases hc' : b.r > 0 ∧ bh.begun = true <;> simp [bandUpdateStats, h.r, hc, hc', hint]

theorem enumBlockR_holds (b bh : Band) (nowMs nowL : Nat) (hr : b.r < u32) (h : Same b bh) :
    holdsC13Tick b (enumBlockR bh nowMs nowL) nowL = true := by
  unfold enumBlockR
  split
  · exact holdsC13Tick_blockEnd b bh nowL hr h
  · exact holdsC13Tick_idle _ _ _ (Or.inl h.blockTs)

/-- THE TICK THEOREM WITH A MOVING CLOCK: the block is judged over at the reading taken on entry (`nowMs`), but the new count's
    Hello is scheduled from the reading taken WHEN it is scheduled (`nowL`, whatever it is): no sooner than the load formula
    allows after that moment — a tick that has spent time transmitting or logging does not shorten the interval -/
theorem tick_schedule_moving (e : Fsm) (b : Band) (table : Option Table) (lastTx0 : Nat) (port : PortMode) (nowMs nowL : Nat) (hr : b.r < u32) :
    match (tickEnumStageR (some (e, some b)) table lastTx0 port nowMs nowL).1 with
    | some (_, some b') => holdsC13Tick b b' nowL = true
    | _ => True := by
  obtain ⟨_, b', h, hb⟩ := tickEnumStageR_band e b table lastTx0 port nowMs nowL
  rw [h]
  rcases hb with rfl | rfl | ⟨e1, rfl⟩
  · exact holdsC13Tick_idle _ _ _ (.inl rfl)
  · exact holdsC13Tick_idle _ _ _ (.inr rfl)
  · exact enumBlockR_holds b _ nowMs nowL hr (enumHelloR_same e1 b lastTx0 port nowMs nowL)

/-- THE TICK THEOREM: whatever else the tick does (table-driven state update, Hello branch with its one-second floor,
    any wiring of the port), if it ends a block the count follows the formula and the next Hello is scheduled no sooner
    than the load formula for the NEW count allows -/
theorem tick_schedule (e : Fsm) (b : Band) (table : Option Table) (lastTx0 : Nat) (port : PortMode) (nowMs : Nat) (hr : b.r < u32) :
    match (tickEnumStage (some (e, some b)) table lastTx0 port nowMs).1 with
    | some (_, some b') => holdsC13Tick b b' nowMs = true
    | _ => True :=
  tick_schedule_moving e b table lastTx0 port nowMs nowMs hr

/-! ## r counts the Hellos of ONE block, over every history

`./check C13` follows the count of Hellos heard since the block began on the specification side (reset when an enumeration
starts and when a block ends, one more for each Hello heard) and applies the block-end predicates to THAT count;
`block_count` is why this is what the model's `r` holds after every sequence of RepeatBand calls. -/

inductive BOp where
  | init (nowMs : Nat)          -- band_init_stats: an enumeration starts
  | heard                       -- band_on_hello_received
  | update (nowMs : Nat)        -- band_update_stats: a block ends
  | choose (nowMs : Nat)        -- band_choose_hello_time
  | doHello (nowMs : Nat)       -- band_do_hello
  | quiesce                     -- the tick's "table empty" branch: timers disarmed

def bstep (b : Band) : BOp → Band
  | .init n => bandInitStats b n
  | .heard => bandOnHelloReceived b
  | .update n => bandUpdateStats b n
  | .choose n => bandChooseHelloTime b n
  | .doHello n => bandDoHello b n
  | .quiesce => { b with helloTs := 0, blockTs := 0, begun := false }

/-- the specification's count of Hellos heard in the current block -/
def cstep (n : Nat) : BOp → Nat
  | .init _ => 0
  | .heard => (n + 1) % u32
  | .update _ => 0
  | _ => n

theorem block_count (ops : List BOp) (b : Band) (n : Nat) (h : b.r = n) : (ops.foldl bstep b).r = ops.foldl cstep n :=
  h ▸ foldl_proj bstep cstep (·.r) (fun b op => by
    cases op <;> simp [bstep, cstep, bandInitStats, bandOnHelloReceived, bandUpdateStats, bandChooseHelloTime, bandDoHello]) ops b

theorem enumBlockR_r (bh : Band) (nowMs nowL : Nat) :
    (enumBlockR bh nowMs nowL).r = bh.r ∨ ((enumBlockR bh nowMs nowL).r = 0 ∧ (enumBlockR bh nowMs nowL).blockTs = nowL + X.bandBlockTime) := by
  unfold enumBlockR
  split
  · exact Or.inr ⟨rfl, rfl⟩
  · exact Or.inl rfl

theorem tick_count_moving (e : Fsm) (b : Band) (table : Option Table) (lastTx0 : Nat) (port : PortMode) (nowMs nowL : Nat) :
    match (tickEnumStageR (some (e, some b)) table lastTx0 port nowMs nowL).1 with
    | some (_, some b') => b'.r = b.r ∨ (b'.r = 0 ∧ b'.blockTs = nowL + X.bandBlockTime)
    | _ => True := by
  obtain ⟨_, b', h, hb⟩ := tickEnumStageR_band e b table lastTx0 port nowMs nowL
  rw [h]
  rcases hb with rfl | rfl | ⟨e1, rfl⟩
  · exact .inl rfl
  · exact .inl rfl
  · exact (enumBlockR_r _ nowMs nowL).imp_left (·.trans (enumHelloR_same e1 b lastTx0 port nowMs nowL).r)

/-- the tick touches the count only by ending a block -/
theorem tick_count (e : Fsm) (b : Band) (table : Option Table) (lastTx0 : Nat) (port : PortMode) (nowMs : Nat) :
    match (tickEnumStage (some (e, some b)) table lastTx0 port nowMs).1 with
    | some (_, some b') => b'.r = b.r ∨ (b'.r = 0 ∧ b'.blockTs = nowMs + X.bandBlockTime)
    | _ => True :=
  tick_count_moving e b table lastTx0 port nowMs nowMs

/-- non-vacuity: r = 65536 saturates instead of wrapping to 0 -/
example : bandNewNi 65536 = 10000 ∧ bandNewNi 14 = 8820 ∧ bandNewNi 15 = 10000 ∧ bandNewNi 4294967295 = 10000 := by decide

end LLTD.C13
