/-
  C13 for the translated source: the property predicates of `Spec/Automata.lean` hold of band_update_stats /
  band_choose_hello_time / band_on_hello_received / band_init_stats as translated from lltdAutomata.c on every run
  (tools/c2lean.py, `Generated/Translated.lean`), for every band record whose fields are values of their C types and every clock
  reading, from the theorems of `Props/C13.lean` through the equalities of `Lemmas/TranslatedEq.lean`.  A change to one of these
  C functions changes the terms these theorems are about.
-/
import LLTD.Props.C13
import LLTD.Lemmas.TranslatedEq

namespace LLTD.C13T
open LLTD LLTD.Spec LLTD.TEq

/-- band_update_stats as translated: r restarts, Ni follows min(10000, 45·r²) when r > 0 and the
    enumeration has begun, is kept otherwise, and stays inside [45, 10000] -/
theorem update_translated (e : T.Env) (b : T.band_state) (he : ClockOk e) (hb : BandOk b) :
    holdsC13Update (bandOfC b) (bandOfC (T.band_update_stats e b).band) = true := by
  rw [band_update_stats_eq e b he]
  exact C13.update (bandOfC b) hb.2 e.nowMs

/-- the formula itself, on the translated function, for every r a `uint32_t` can hold (65536 and 2^32 − 1 included) -/
theorem formula_translated (e : T.Env) (b : T.band_state) (he : ClockOk e) (hb : BandOk b) (hr : 0 < b.r) (hg : b.begun = true) :
    (T.band_update_stats e b).band.Ni = min 10000 (45 * b.r ^ 2) ∧ (T.band_update_stats e b).band.r = 0 ∧
    (T.band_update_stats e b).band.block_timeout_ts = e.nowMs + 300 := by
  rw [eq_bandToC (band_update_stats_eq e b he)]
  refine ⟨?_, rfl, rfl⟩
  show (bandUpdateStats (bandOfC b) e.nowMs).ni = _
  rw [bandUpdateStats_ni, if_pos ⟨hr, hg⟩]
  exact C13.formula b.r hb.2

/-- band_choose_hello_time as translated: never sooner than the load formula allows, Ni untouched -/
theorem choose_translated (e : T.Env) (b : T.band_state) (he : ClockOk e) (hb : BandOk b) :
    holdsC13Choose (bandOfC b) (bandOfC (T.band_choose_hello_time e b).band) e.nowMs = true := by
  rw [(band_choose_hello_time_eq e b he hb).1]
  exact C13.choose (bandOfC b) e.nowMs

/-- the exact interval: max(6, ⌈4·Ni·20 / 30⌉) ms from now, also as the function's return value -/
theorem interval_translated (e : T.Env) (b : T.band_state) (he : ClockOk e) (hb : BandOk b) :
    (T.band_choose_hello_time e b).ret = e.nowMs + max 6 (loadInterval b.Ni) := by
  rw [(band_choose_hello_time_eq e b he hb).2]
  simp [bandChooseHelloTime, C13.interval, bandOfC]

/-- band_on_hello_received as translated: every Hello heard adds exactly one -/
theorem heard_translated (e : T.Env) (b : T.band_state) (hb : BandOk b) :
    holdsC13Heard (bandOfC b) (bandOfC (T.band_on_hello_received e b).band) = true := by
  rw [band_on_hello_received_eq e b]
  exact C13.heard (bandOfC b) hb.2

/-- the tick's block-end sequence `band_update_stats; band_choose_hello_time` on the translated functions -/
theorem block_end_translated (e : T.Env) (b : T.band_state) (he : ClockOk e) (hb : BandOk b)
    (hok : BandOk (T.band_update_stats e b).band) :
    bandOfC (T.band_choose_hello_time e (T.band_update_stats e b).band).band =
      bandChooseHelloTime (bandUpdateStats (bandOfC b) e.nowMs) e.nowMs :=
  block_end e b he hb

/-- `BandOk` is an invariant of the translated update: the new count saturates at NMAX = 10000 -/
theorem bandOk_update (e : T.Env) (b : T.band_state) (he : ClockOk e) (hb : BandOk b) : BandOk (T.band_update_stats e b).band :=
  band_update_ok e b he hb

/-- band_init_stats as translated: the count starts at 45 with r = 0 -/
theorem init_translated (e : T.Env) (b : T.band_state) (he : ClockOk e) :
    (T.band_init_stats e b).band.Ni = 45 ∧ (T.band_init_stats e b).band.r = 0 ∧ (T.band_init_stats e b).band.begun = false := by
  rw [eq_bandToC (band_init_stats_eq e b he)]; exact ⟨rfl, rfl, rfl⟩

-- non-vacuity: a concrete record and clock meet the hypotheses, and the translated function computes on them
example : BandOk { Ni := 45, r := 65536, begun := true, hello_timeout_ts := 0, block_timeout_ts := 0 } ∧
    ClockOk { nowMs := 123456, nowS := 123 } := by
  refine ⟨⟨by decide, by decide⟩, by decide, by decide⟩
example : (T.band_update_stats { nowMs := 1000, nowS := 1 } { Ni := 45, r := 65536, begun := true, hello_timeout_ts := 0, block_timeout_ts := 0 }).band.Ni = 10000 := by
  decide
example : (T.band_update_stats { nowMs := 1000, nowS := 1 } { Ni := 45, r := 3, begun := true, hello_timeout_ts := 0, block_timeout_ts := 0 }).band.Ni = 405 := by
  decide

end LLTD.C13T
