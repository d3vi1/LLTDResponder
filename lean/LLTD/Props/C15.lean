/-
  C15 — The session automaton follows the LLTD session life-cycle.
-/
import LLTD.Lemmas.Lookup
import LLTD.Lemmas.XVals
import LLTD.Spec.Automata

namespace LLTD.C15
open LLTD LLTD.Spec

theorem rows_in_range : ∀ r ∈ X.sessionTable, r.1 < X.sessionStatesNo ∧ r.2.1 < X.sessionStatesNo := by decide

theorem table_fits : X.sessionStatesNo = 4 ∧ X.sessionStatesNo ≤ X.maxStates ∧
    X.sessionTable.length ≤ X.maxTransitions ∧ X.sessionInit = 1 := by decide

/-- the session-event codes the classifier produces are the documented ones -/
theorem event_codes : X.sessConflicting = 0 ∧ X.sessReset = 1 ∧ X.sessNoack = 2 ∧ X.sessAcking = 3 ∧
    X.sessNoackChgd = 4 ∧ X.sessAckingChgd = 5 ∧ X.sessTopoReset = 6 ∧ X.sessHello = 7 :=
  ⟨X.sessConflicting_val, X.sessReset_val, X.sessNoack_val, X.sessAcking_val, X.sessNoackChgd_val, X.sessAckingChgd_val,
    X.sessTopoReset_val, X.sessHello_val⟩

/-- the extracted table is the specified life-cycle; an expiry ends in Nascent -/
theorem follows : Follows X.sessionTable 4 sessSpec 1 where
  listed := by decide +kernel
  other s _ e h := by
    simp [inputsOf, X.sessionTable] at h
    unfold sessSpec; split <;> simp [h]
  closed r hr := (rows_in_range r hr).2
  home := by decide

/-- the table is the specified life-cycle — for every integer input, inside and outside the event alphabet -/
theorem lookup_spec (s : Nat) (hs : s < 4) (e : Int) : (lookup X.sessionTable s e).1 = sessSpec s e :=
  follows.lookup_spec s hs e

/-- one step of switch_state_session satisfies the property predicate, for every state, input and time -/
theorem step (pre : Fsm) (hs : pre.state < 4) (e : Int) (now : Nat) (hn : now < u64) :
    holdsC15Step (timeoutOf X.sessionTimeouts pre.state) pre (stepSession pre e now) e now = true := by
  simp only [holdsC15Step, stepSession, follows.state hs]
  by_cases hw : timeoutOf X.sessionTimeouts pre.state = 0 ∨ diff64 now pre.lastTs ≤ timeoutOf X.sessionTimeouts pre.state
  · simp only [if_pos hw, decide_true, ite_self]
  · simp only [if_neg hw, decide_true, ite_self]

/-- the same when the clock moves WHILE the call runs (`stepSessionR`: reading `now1` on entry, `now2` — whatever it is — on the
    second level after an expiry): the decision is the one for the time of entry ... -/
theorem step_moving_clock (pre : Fsm) (hs : pre.state < 4) (e : Int) (now1 now2 : Nat) (hn : now1 < u64) :
    holdsC15Step (timeoutOf X.sessionTimeouts pre.state) pre (stepSessionR pre e now1 now2) e now1 = true := by
  simp only [holdsC15Step, stepSessionR, follows.stateR hs]
  by_cases hw : timeoutOf X.sessionTimeouts pre.state = 0 ∨ diff64 now1 pre.lastTs ≤ timeoutOf X.sessionTimeouts pre.state
  · simp only [if_pos hw, decide_true, ite_self]
  · simp only [if_neg hw, decide_true, ite_self]

/-- ... and an event that does not find the session expired stamps the time of entry, not a later reading -/
theorem stamp_at_entry (pre : Fsm) (e : Int) (now1 now2 : Nat) (hn : now1 < u64)
    (hw : timeoutOf X.sessionTimeouts pre.state = 0 ∨ diff64 now1 pre.lastTs ≤ timeoutOf X.sessionTimeouts pre.state) :
    (stepSessionR pre e now1 now2).lastTs = now1 := by
  rw [stepSessionR, stepTimedR_eq, if_pos hw]

theorem moving_same (pre : Fsm) (e : Int) (now : Nat) : stepSessionR pre e now now = stepSession pre e now :=
  stepTimedR_same _ _ pre e now

theorem last_ts (pre : Fsm) (e : Int) (now : Nat) : (stepSession pre e now).lastTs = now :=
  stepTimed_lastTs _ _ pre e now

def run (a : Fsm) : List (Int × Nat) → Fsm
  | [] => a
  | (e, now) :: rest => run (stepSession a e now) rest

def stepsOk (a : Fsm) : List (Int × Nat) → Bool
  | [] => true
  | (e, now) :: rest =>
    holdsC15Step (timeoutOf X.sessionTimeouts a.state) a (stepSession a e now) e now && stepsOk (stepSession a e now) rest

/-- all time stamps are 64-bit values; nothing else is assumed about them: the elapsed time is taken modulo 2^64, as the C code
    takes it, so a seconds counter that wraps — or a clock that steps backwards — is covered -/
def timesOk : List (Int × Nat) → Prop
  | [] => True
  | (_, now) :: rest => now < u64 ∧ timesOk rest

/-- every step of every event/time history meets the predicate -/
theorem history (a : Fsm) (hs : a.state < 4) (evs : List (Int × Nat)) (hm : timesOk evs) :
    stepsOk a evs = true ∧ (run a evs).state < 4 := by
  induction evs generalizing a with
  | nil => exact ⟨rfl, hs⟩
  | cons ev rest ih =>
    obtain ⟨e, now⟩ := ev
    obtain ⟨h2, h3⟩ := hm
    have hs' : (stepSession a e now).state < 4 := follows.state_lt hs e now
    have := ih (stepSession a e now) hs' h3
    simp only [stepsOk, run, step a hs e now h2, this.1, Bool.and_self, true_and]
    exact this.2

/-- non-vacuity of the moving-clock form: an event entered in second 51 and finished in second 52 stamps 51 -/
example : (stepSessionR ⟨3, 51⟩ 2 51 52).lastTs = 51 ∧ (stepSessionR ⟨3, 49⟩ 2 51 52) = ⟨1, 52⟩ := by decide

/-- across the wrap of the seconds counter: one second elapsed (2^64 - 1 -> 0) keeps a Complete session, three (2^64 - 2 -> 1) expire it -/
example : (stepSession ⟨3, 18446744073709551615⟩ 5 0).state = 3 ∧ (stepSession ⟨3, 18446744073709551614⟩ 5 1).state = 1 ∧
    holdsC15Step 1 ⟨3, 18446744073709551614⟩ (stepSession ⟨3, 18446744073709551614⟩ 5 1) 5 1 = true := by decide

/-- non-vacuity: a Complete session reset within its timeout goes to Nascent -/
example : (stepSession ⟨3, 10⟩ 1 10).state = 1 ∧ holdsC15Step 1 ⟨3, 10⟩ (stepSession ⟨3, 10⟩ 1 10) 1 10 = true := by decide

end LLTD.C15
