/-
  C12 for the translated source: through `TEq.automata_tick_eq` the clauses of Props/C12.lean become statements about
  `automata_tick` as translated (all objects present, the port wired the way darwin-main.c wires it): at most one callback per
  tick, only at least a second after the previous one, the time stamp updated to now, and only while the session table (after the
  inactivity clear and the expiry sweep of the same tick) holds a live session that is not complete.
-/
import LLTD.Props.C12
import LLTD.Lemmas.TranslatedTick
import LLTD.Lemmas.Tick
import LLTD.Props.C16T

namespace LLTD.C12T
open LLTD LLTD.Spec LLTD.TEq

/-- one tick of the translated function: either the `send_hello` callback is not invoked and the port's time stamp is untouched, or it
    is invoked exactly once, the time stamp becomes `now` (> 0), the previous transmit was at least one second ago (or never), and
    the session table the tick leaves behind is neither empty nor all complete -/
theorem tick_hello_translated (e : T.Env) (he : EnvOk e) (m en : T.automata) (t : T.session_table) (p : T.lltd_automata_tick_port)
    (mx : T.mapping_state) (bx : T.band_state) (ltx : Nat)
    (hm : AutOk m) (him : IsMapping m) (hen : EnumOk en) (ht : TickTblOk t) (hb : BandOk bx) (hltx : ltx ≤ e.nowMs) :
    let r := T.automata_tick e m en t p mx bx ltx
    (r.port_send_hello_calls = 0 ∧ r.port_last_hello_tx_ms = ltx) ∨
    (r.port_send_hello_calls = 1 ∧ r.port_last_hello_tx_ms = e.nowMs ∧ 0 < e.nowMs ∧ (ltx = 0 ∨ ltx + 1000 ≤ e.nowMs) ∧
      (tableOfC r.sessions).isEmpty = false ∧ (tableOfC r.sessions).allComplete = false) := by
  intro r
  obtain ⟨h1, h2, _⟩ := automata_tick_eq e he m en t p mx bx ltx hm him hen ht hb hltx
  have hT := C12.tick_hello { mapping := some (fsmOfC m, some (mapOfC mx)), enum := some (fsmOfC en, some (bandOfC bx)),
                              table := some (tableOfC t), lastTx := ltx } e.nowMs (by have := he.hc.1; omega) hltx
  -- the model's result is rewritten to the record read off `r` before anything is compared: left to `exact`, the unifier
  -- would evaluate `T.automata_tick` to match the projections
  simp only [h1, tableEmptyOf, allCompleteOf] at hT
  rw [show r.port_send_hello_calls = _ from h2]
  exact hT.imp (fun a => ⟨congrArg List.length a.1, a.2⟩) (fun a => ⟨congrArg List.length a.1, a.2⟩)

/-- the table invariant of C16 survives the translated tick (inactivity clear, expiry sweep, status update) -/
theorem tick_inv_translated (e : T.Env) (he : EnvOk e) (m en : T.automata) (t : T.session_table) (p : T.lltd_automata_tick_port)
    (mx : T.mapping_state) (bx : T.band_state) (ltx : Nat)
    (hm : AutOk m) (him : IsMapping m) (hen : EnumOk en) (ht : TickTblOk t) (hb : BandOk bx) (hltx : ltx ≤ e.nowMs)
    (hinv : C16.TInv (tableOfC t)) : C16.TInv (tableOfC (T.automata_tick e m en t p mx bx ltx).sessions) := by
  have hT := (tick_table _ .wired e.nowMs).symm.trans
    (congrArg TickState.table (automata_tick_eq e he m en t p mx bx ltx hm him hen ht hb hltx).1)
  rw [tickMapStage_some] at hT
  -- the table the tick leaves is the expiry sweep of the cleared table (inactivity time-out) or of the table it was given
  by_cases hin : mapCheckInactive (mapOfC mx) (e.nowMs / 1000) = true
  · simp only [if_pos hin, Option.map_some, Option.some.injEq] at hT
    rw [← hT]
    exact (C16.expire_inv_spec _ _ C16.create_inv).1
  · simp only [if_neg hin, Option.map_some, Option.some.injEq] at hT
    rw [← hT]
    exact (C16.expire_inv_spec _ _ hinv).1

/-- purposeful, for the translated tick: when it invokes the callback the table it leaves behind holds a live session that is not
    complete (given the table invariant before the tick - which `C16T.reach_translated` shows every sequence of translated calls
    maintains and `tick_inv_translated` shows the tick itself preserves) -/
theorem gate_translated (e : T.Env) (he : EnvOk e) (m en : T.automata) (t : T.session_table) (p : T.lltd_automata_tick_port)
    (mx : T.mapping_state) (bx : T.band_state) (ltx : Nat)
    (hm : AutOk m) (him : IsMapping m) (hen : EnumOk en) (ht : TickTblOk t) (hb : BandOk bx) (hltx : ltx ≤ e.nowMs)
    (hinv : C16.TInv (tableOfC t))
    (hsent : (T.automata_tick e m en t p mx bx ltx).port_send_hello_calls ≠ 0) :
    ∃ s ∈ (viewOf (tableOfC (T.automata_tick e m en t p mx bx ltx).sessions)).live, s.complete = false := by
  rcases tick_hello_translated e he m en t p mx bx ltx hm him hen ht hb hltx with h | ⟨-, -, -, -, hne, hnc⟩
  · exact absurd h.1 hsent
  · exact C12.gate _ (tick_inv_translated e he m en t p mx bx ltx hm him hen ht hb hltx hinv) hne hnc

theorem idle_silent_translated (e : T.Env) (he : EnvOk e) (m en : T.automata) (t : T.session_table) (p : T.lltd_automata_tick_port)
    (mx : T.mapping_state) (bx : T.band_state) (ltx : Nat)
    (hm : AutOk m) (him : IsMapping m) (hen : EnumOk en) (ht : TickTblOk t) (hb : BandOk bx) (hltx : ltx ≤ e.nowMs)
    (hidle : (tableOfC (T.automata_tick e m en t p mx bx ltx).sessions).isEmpty = true) :
    (T.automata_tick e m en t p mx bx ltx).port_send_hello_calls = 0 := by
  rcases tick_hello_translated e he m en t p mx bx ltx hm him hen ht hb hltx with h | ⟨-, -, -, -, hne, -⟩
  · exact h.1
  · rw [hidle] at hne; exact absurd hne (by simp)

-- non-vacuity: the record rebuilt from the extracted tables, a not-complete session, Pausing, deadline passed: the translated tick
-- invokes the callback once and stamps the port
example :
    let t := (T.session_table_add { nowMs := 0, nowS := 0 } C16T.createT [2,0,0,0,0,1] 1 1).table
    let r := T.automata_tick { nowMs := 5000, nowS := 5 } (autOfX X.mappingTable X.mappingTimeouts 0 0)
      (autOfX X.enumerationTable X.enumerationTimeouts 1 0) t {} { ctc := 0, charge_timeout_ts := 0, inactive_timeout_ts := 0 }
      { Ni := 45, r := 0, begun := false, hello_timeout_ts := 120, block_timeout_ts := 300 } 0
    r.port_send_hello_calls = 1 ∧ r.port_last_hello_tx_ms = 5000 := by
  decide +kernel

end LLTD.C12T
