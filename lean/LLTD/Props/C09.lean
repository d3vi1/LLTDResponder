/-
  C09 — A Reset returns the responder to fresh-start behaviour.
  Bisimulation up to `norm`: while no mapper is known, the stored mapper addresses are dead (they are only read
  after being overwritten), so a state that differs from the fresh one only in those two fields reacts identically.
-/
import LLTD.Lemmas.Frame

namespace LLTD.C09
open LLTD

def norm (st : St) : St := if st.known then st else { st with mapperReal := zeroMac, mapperApparent := zeroMac }

/-- same reaction: port calls, allocator / ledger effects, faults; next states equal up to dead fields -/
def SameReaction (a b : Out) : Prop := a.fx = b.fx ∧ a.w = b.w ∧ a.fault = b.fault ∧ norm a.st = norm b.st

theorem sameReaction_refl (a : Out) : SameReaction a a := ⟨rfl, rfl, rfl, rfl⟩

theorem norm_idem (st : St) : norm (norm st) = norm st := by
  unfold norm; by_cases h : st.known = true <;> simp [h]

theorem setActive_norm (st : St) (r e : Mac) (hk : st.known = false) :
    setActiveMapper (norm st) r e = setActiveMapper st r e := by
  unfold setActiveMapper norm; simp [hk]

theorem matches_norm (st : St) (r : Mac) (hk : st.known = false) : mapperMatches (norm st) r = mapperMatches st r := by
  unfold mapperMatches norm; simp [hk]

theorem cmdSt_norm (st : St) (img : List Nat) (hk : st.known = false) : cmdSt (norm st) img = cmdSt st img := by
  unfold cmdSt setActiveMapper norm; simp [hk]

theorem norm_unknown (st : St) (hk : st.known = false) : norm st = { st with mapperReal := zeroMac, mapperApparent := zeroMac } := by
  unfold norm; rw [hk]; rfl

theorem emit_norm (c : Cfg) (w : World) (st : St) (img : List Nat) (hk : st.known = false) :
    SameReaction (parseEmit c w st img) (parseEmit c w (norm st) img) := by
  rw [parseEmit_eq c w st, parseEmit_eq c w (norm st), cmdSt_norm st img hk]
  split
  · exact ⟨rfl, rfl, rfl, (norm_idem st).symm⟩
  · exact sameReaction_refl _

theorem probe_norm (c : Cfg) (w : World) (st : St) (img : List Nat) (hk : st.known = false) :
    SameReaction (parseProbe c w st img) (parseProbe c w (norm st) img) := by
  rw [parseProbe_eq c w st, parseProbe_eq c w (norm st), norm_unknown st hk]
  refine ⟨rfl, rfl, rfl, ?_⟩
  simp only [norm, hk, Bool.false_eq_true, if_false]

/-- parseQuery overwrites both addresses before it reads them: by computation -/
theorem query_norm (c : Cfg) (w : World) (st : St) (img : List Nat) (hk : st.known = false) :
    parseQuery c w (norm st) img = parseQuery c w st img := by
  rw [norm_unknown st hk]; rfl

theorem large_norm (c : Cfg) (g : Glob) (w : World) (st : St) (img : List Nat) (hk : st.known = false) :
    SameReaction (parseQueryLargeTlv c g w st img) (parseQueryLargeTlv c g w (norm st) img) := by
  rw [parseQueryLargeTlv_eq, parseQueryLargeTlv_eq, cmdSt_norm st img hk]
  split
  · exact ⟨rfl, rfl, rfl, (norm_idem st).symm⟩
  · exact sameReaction_refl _

/-- THE DEAD-FIELD THEOREM: a state and its normal form react identically to every frame -/
theorem dead_fields (c : Cfg) (g : Glob) (w : World) (st : St) (img : List Nat) :
    SameReaction (parseFrameSt c g w st img) (parseFrameSt c g w (norm st) img) := by
  by_cases hk : st.known = true
  · rw [show norm st = st by unfold norm; rw [if_pos hk]]; exact sameReaction_refl _
  · replace hk : st.known = false := by simpa using hk
    have hn := norm_unknown st hk
    rw [parseFrameSt_req, parseFrameSt_req]
    cases reqOf img <;> simp only [reactTo]
    case discover =>
      -- `mapperMatches` does not read the addresses of an unknown mapper, and the Discover pre-step overwrites both
      have hpre : preStep (norm st) img = preStep st img := by unfold preStep; rw [setActive_norm st _ _ hk]
      rw [matches_norm st _ hk, hpre]
      split
      · exact sameReaction_refl _
      · exact ⟨rfl, rfl, rfl, (norm_idem st).symm⟩
    case emit => exact emit_norm c w st img hk
    case probe => exact probe_norm c w st img hk
    case query => rw [query_norm c w st img hk]; exact sameReaction_refl _
    case large => exact large_norm c g w st img hk
    case reset0 => rw [hn]; exact ⟨rfl, rfl, rfl, rfl⟩
    case reset1 => rw [hn]; exact ⟨rfl, rfl, rfl, rfl⟩
    case other => exact ⟨rfl, rfl, rfl, (norm_idem st).symm⟩

/-- after a topology Reset the record is, up to dead fields, the record of a freshly started responder -/
theorem reset_is_fresh (st : St) : norm (resetSt st) = norm {} := by
  unfold norm resetSt; simp

/-- bisimulation: states equal up to dead fields react identically and stay equal up to dead fields -/
theorem bisim (c : Cfg) (g : Glob) (w : World) (s1 s2 : St) (img : List Nat) (h : norm s1 = norm s2) :
    SameReaction (parseFrameSt c g w s1 img) (parseFrameSt c g w s2 img) := by
  obtain ⟨fx1, w1, ft1, st1⟩ := dead_fields c g w s1 img
  obtain ⟨fx2, w2, ft2, st2⟩ := dead_fields c g w s2 img
  rw [h] at fx1 w1 ft1 st1
  exact ⟨fx1.trans fx2.symm, w1.trans w2.symm, ft1.trans ft2.symm, st1.trans st2.symm⟩

/-- histories: the reactions (port calls per frame) to a continuation -/
def reactions (c : Cfg) (g : Glob) : World → St → List (List Nat) → List (List Fx)
  | _, _, [] => []
  | w, st, img :: rest =>
    let o := parseFrameSt c g w st img
    o.fx :: reactions c g o.w o.st rest

theorem reactions_bisim (c : Cfg) (g : Glob) (cont : List (List Nat)) (w : World) (s1 s2 : St) (h : norm s1 = norm s2) :
    reactions c g w s1 cont = reactions c g w s2 cont := by
  induction cont generalizing w s1 s2 with
  | nil => rfl
  | cons img rest ih =>
    obtain ⟨hfx, hw, -, hst⟩ := bisim c g w s1 s2 img h
    simp only [reactions]
    rw [hfx, hw]
    congr 1
    exact ih _ _ _ hst

/-- C09: after ANY state (reached by any history) and a topology Reset, the reaction to ANY continuation is,
    frame for frame and byte for byte, that of a freshly started responder with the same configuration (same
    allocator behaviour on both sides) -/
theorem reset_then_like_fresh (c : Cfg) (g : Glob) (w : World) (st : St) (cont : List (List Nat)) :
    reactions c g w (resetSt st) cont = reactions c g w {} cont :=
  reactions_bisim c g cont w _ _ (reset_is_fresh st)

/-- non-vacuity: a state full of history — known mapper, observations, generations, cached icon -/
def dirty : St :=
  { sees := [{ typ := 1, realSrc := [1,1,1,1,1,1], src := [2,2,2,2,2,2], dst := [3,3,3,3,3,3] }], count := 1,
    mapperReal := [9,9,9,9,9,9], mapperApparent := [8,8,8,8,8,8], known := true, seq := 77, genTopo := 5, genQuick := 6,
    icon := some [1, 2, 3] }
example : norm (resetSt dirty) = norm {} := by decide

end LLTD.C09
