/-
  C14 — The mapping engine follows its state machine and times out.
-/
import LLTD.Lemmas.Lookup
import LLTD.Lemmas.Table
import LLTD.Lemmas.Tick
import LLTD.Spec.Automata

namespace LLTD.C14
open LLTD LLTD.Spec

/-- every row of the table as built by init_automata_mapping stays inside states_table (feeds C01) -/
theorem rows_in_range : ∀ r ∈ X.mappingTable, r.1 < X.mappingStatesNo ∧ r.2.1 < X.mappingStatesNo := by decide

theorem table_fits : X.mappingStatesNo = 3 ∧ X.mappingStatesNo ≤ X.maxStates ∧
    X.mappingTable.length ≤ X.maxTransitions ∧ X.mappingInit = 0 := by decide

/-- idle has no timeout, Command and Emit have a non-zero one of at most 30 s -/
theorem timeouts : holdsC14Timeouts X.mappingTimeouts = true := by decide

/-- "every other frame, whatever its opcode, leaves the state unchanged" -/
theorem ignore (s : Nat) (i : Int) (h : i ≠ 0 ∧ i ≠ 2 ∧ i ≠ 8 ∧ i ≠ -1 ∧ i ≠ -3) : mapSpec s i = s := by
  obtain ⟨h0, h2, h8, h1, h3⟩ := h
  unfold mapSpec
  split <;> simp [*]

/-- the extracted table is the specified machine; a time-out ends in Quiescent -/
theorem follows : Follows X.mappingTable 3 mapSpec 0 where
  listed := by decide +kernel
  other s _ i h :=
    -- the five inputs `mapSpec` acts on are inputs of the table
    have hne : ∀ k ∈ inputsOf X.mappingTable, i ≠ k := fun k hk e => h (e ▸ hk)
    ignore s i ⟨hne 0 (by decide), hne 2 (by decide), hne 8 (by decide), hne (-1) (by decide), hne (-3) (by decide)⟩
  closed r hr := (rows_in_range r hr).2
  home := by decide

/-- the table, interpreted "last matching row wins", is the specified transition function — for every integer input -/
theorem lookup_spec (s : Nat) (hs : s < 3) (i : Int) : (lookup X.mappingTable s i).1 = mapSpec s i :=
  follows.lookup_spec s hs i

/-- one step of switch_state_mapping satisfies the property predicate, for every state, integer input and time -/
theorem step (pre : Fsm) (hs : pre.state < 3) (i : Int) (now : Nat) (hn : now < u64) :
    holdsC14Step (timeoutOf X.mappingTimeouts pre.state) pre (stepMapping pre i now) i now = true := by
  simp only [holdsC14Step, stepMapping, stepTimed_lastTs, follows.state hs]
  split <;> simp

/-- the same when the clock moves while the call runs (`stepMappingR`: `now1` read on entry, `now2` on the second level after
    an expiry): the decision is the one for the time of entry, whatever the second reading (the stamp: `stamp_at_entry`) -/
theorem step_moving_clock (pre : Fsm) (hs : pre.state < 3) (i : Int) (now1 now2 : Nat) (hn : now1 < u64) :
    holdsC14Step (timeoutOf X.mappingTimeouts pre.state) pre { state := (stepMappingR pre i now1 now2).state, lastTs := now1 } i now1 = true := by
  simp only [holdsC14Step, stepMappingR, follows.stateR hs]
  split <;> simp

theorem stamp_at_entry (pre : Fsm) (i : Int) (now1 now2 : Nat) (hn : now1 < u64)
    (hw : timeoutOf X.mappingTimeouts pre.state = 0 ∨ diff64 now1 pre.lastTs ≤ timeoutOf X.mappingTimeouts pre.state) :
    (stepMappingR pre i now1 now2).lastTs = now1 := by
  rw [stepMappingR, stepTimedR_eq, if_pos hw]

theorem moving_same (pre : Fsm) (i : Int) (now : Nat) : stepMappingR pre i now now = stepMapping pre i now :=
  stepTimedR_same _ _ pre i now

theorem last_ts (pre : Fsm) (i : Int) (now : Nat) : (stepMapping pre i now).lastTs = now :=
  stepTimed_lastTs _ _ pre i now

def run (a : Fsm) : List (Int × Nat) → Fsm
  | [] => a
  | (i, now) :: rest => run (stepMapping a i now) rest

def stepsOk (a : Fsm) : List (Int × Nat) → Bool
  | [] => true
  | (i, now) :: rest =>
    holdsC14Step (timeoutOf X.mappingTimeouts a.state) a (stepMapping a i now) i now && stepsOk (stepMapping a i now) rest

/-- all time stamps are 64-bit values; nothing else is assumed about them: the elapsed time is taken modulo 2^64, as the C code
    takes it, so a seconds counter that wraps — or a clock that steps backwards — is covered -/
def timesOk : List (Int × Nat) → Prop
  | [] => True
  | (_, now) :: rest => now < u64 ∧ timesOk rest

/-- every step of every event/time history meets the predicate -/
theorem history (a : Fsm) (hs : a.state < 3) (evs : List (Int × Nat)) (hm : timesOk evs) :
    stepsOk a evs = true ∧ (run a evs).state < 3 := by
  induction evs generalizing a with
  | nil => exact ⟨rfl, hs⟩
  | cons ev rest ih =>
    obtain ⟨i, now⟩ := ev
    obtain ⟨h2, h3⟩ := hm
    have hs' : (stepMapping a i now).state < 3 := follows.state_lt hs i now
    have := ih (stepMapping a i now) hs' h3
    simp only [stepsOk, run, step a hs i now h2, this.1, Bool.and_self, true_and]
    exact this.2

/-- a time-out input always ends the session, whatever the time stamps -/
theorem timeout_to_idle (f : Fsm) (hs : f.state < 3) (now : Nat) (hn : now < u64) : (stepMapping f (-1) now).state = 0 := by
  rw [stepMapping, follows.state hs]
  split
  · exact (by decide : ∀ s < 3, mapSpec s (-1) = 0) _ hs
  · rfl

/-- the tick-driven clause: once the 30 s inactivity deadline has passed, automata_tick ends the
    session, clears the charge counter and empties the session table (for every enumeration
    state, port wiring and clock value) -/
theorem tick_inactive (f : Fsm) (hs : f.state < 3) (m : MapState) (e : Option (Fsm × Option Band)) (t : Table) (ltx : Nat)
    (port : PortMode) (nowMs : Nat) (hn : nowMs / 1000 < u64) :
    ∃ f' m' t', (tick { mapping := some (f, some m), enum := e, table := some t, lastTx := ltx } port nowMs).1.mapping = some (f', some m')
      ∧ (tick { mapping := some (f, some m), enum := e, table := some t, lastTx := ltx } port nowMs).1.table = some t'
      ∧ holdsC14Tick m.inactTs (nowMs / 1000) f' m' t'.live.length = true := by
  rw [tick_mapping, tick_table, tickMapStage_some]
  by_cases hi : m.inactTs ≠ 0 ∧ nowMs / 1000 ≥ m.inactTs
  · rw [if_pos ((mapCheckInactive_iff ..).mpr hi)]
    refine ⟨_, _, _, rfl, rfl, ?_⟩
    simp [holdsC14Tick, hi.1, hi.2, timeout_to_idle f hs _ hn, mapCheckCharge, mapResetCharge, Table.clear, expire_create]
  · rw [if_neg (mt (mapCheckInactive_iff ..).mp hi)]
    exact ⟨_, _, _, rfl, rfl, by simp only [holdsC14Tick, if_neg hi]⟩

/-- mapping_reset_inactive_timeout arms the deadline 30 s from now -/
theorem deadline (m : MapState) (nowS : Nat) : holdsC14Deadline nowS (mapResetInactive m nowS) = true := by
  simp [holdsC14Deadline, mapResetInactive]

/-! ## The deadline over histories: nothing but a received frame arms it, nothing but the tick that acts on it disarms it -/

/-- the operations on the mapping engine's extra state that the glue and the tick perform -/
inductive MOp where
  | frame (nowS : Nat)        -- mapping_reset_inactive_timeout (called for every received frame)
  | charge (nowS : Nat)       -- mapping_on_charge
  | resetCharge               -- mapping_reset_charge
  | checkCharge (nowS : Nat)  -- mapping_check_charge_timeout
  | tick (nowS : Nat)         -- the mapping block of automata_tick

def mstep (m : MapState) : MOp → MapState
  | .frame n => mapResetInactive m n
  | .charge n => mapOnCharge m n
  | .resetCharge => mapResetCharge m
  | .checkCharge n => (mapCheckCharge m n).1
  | .tick n => if mapCheckInactive m n then (mapCheckCharge (mapResetCharge { m with inactTs := 0 }) n).1 else (mapCheckCharge m n).1

/-- the deadline as the specification tracks it -/
def dlstep (d : Nat) : MOp → Nat
  | .frame n => n + 30
  | .tick n => if d ≠ 0 ∧ n ≥ d then 0 else d
  | _ => d

theorem checkCharge_inact (m : MapState) (n : Nat) : (mapCheckCharge m n).1.inactTs = m.inactTs := by
  unfold mapCheckCharge; split
  · rfl
  · split <;> rfl

/-- the deadline steps on its own: nothing else in the record is read to compute it -/
theorem mstep_inactTs (m : MapState) (op : MOp) : (mstep m op).inactTs = dlstep m.inactTs op := by
  cases op with
  | tick n =>
    simp only [mstep, dlstep, mapCheckInactive_iff]
    split <;> rw [checkCharge_inact] <;> rfl
  | _ => simp [mstep, dlstep, mapResetInactive, mapOnCharge, mapResetCharge, checkCharge_inact]

/-- for EVERY sequence of these operations the deadline stored in the record is the specification's: a Charge, the
    charge time-out or a charge reset never disarm the inactivity timer -/
theorem deadline_history (ops : List MOp) (m : MapState) (d : Nat) (h : m.inactTs = d) :
    (ops.foldl mstep m).inactTs = ops.foldl dlstep d :=
  h ▸ foldl_proj mstep dlstep (·.inactTs) mstep_inactTs ops m

/-- the tick of the model is `mstep … (.tick n)` on the mapping engine's extra state -/
theorem tick_is_mstep (f : Fsm) (m : MapState) (e : Option (Fsm × Option Band)) (t : Option Table) (ltx : Nat) (port : PortMode) (nowMs : Nat) :
    ∃ f', (tick { mapping := some (f, some m), enum := e, table := t, lastTx := ltx } port nowMs).1.mapping = some (f', some (mstep m (.tick (nowMs / 1000)))) := by
  rw [tick_mapping, tickMapStage_some, mstep]
  split <;> exact ⟨_, rfl⟩

/-- non-vacuity: a concrete Command state within its timeout, and one past it -/
example : holdsC14Step 5 ⟨1, 10⟩ (stepMapping ⟨1, 10⟩ 2 12) 2 12 = true ∧ (stepMapping ⟨1, 10⟩ 2 12).state = 2 := by decide
example : (stepMapping ⟨1, 10⟩ 2 100).state = 0 := by decide

end LLTD.C14
