/-
  C02 for the translated source (DESIGN.md section 12.10): what `setLltdHeaderEx` of lltdWire.c stores into a buffer with room is
  read back by the independent decoder (Spec/Decode.lean, literals from MS-LLTD) as a demultiplex header with EtherType 0x88D9,
  version 1 and exactly the addresses, service, opcode and sequence number passed: the header part of every `…_wellFormed` theorem
  of C02.  The address comparison the handlers filter with is equality of the six bytes, and the whole Hello the translated
  writers leave behind (C03T) is a well-formed frame.
-/
import LLTD.Props.C02
import LLTD.Lemmas.TranslatedWireEq
import LLTD.Props.C03T
import LLTD.Lemmas.TranslatedMapperEq

namespace LLTD.C02T
open LLTD LLTD.Spec LLTD.TWEq

theorem header_translated_decodes (env : TW.Env) (d s e v t o rd' rs' q rest es ed rs rd : List Nat) (r seq op tos : Nat)
    (hd : d.length = 6) (hs : s.length = 6) (he : e.length = 2) (hv : v.length = 1) (ht : t.length = 1) (ho : o.length = 1)
    (hrd' : rd'.length = 6) (hrs' : rs'.length = 6) (hq : q.length = 2)
    (hes : es.length = 6) (hed : ed.length = 6) (hrs : rs.length = 6) (hrd : rd.length = 6)
    (hseq : seq < 65536) (hop : op < 256) (htos : tos < 256) :
    decodeBase (TW.setLltdHeaderEx env (d ++ (s ++ (e ++ (v ++ (t ++ ([r] ++ (o ++ (rd' ++ (rs' ++ (q ++ rest)))))))))) es ed rs rd seq op tos).buffer
      = some { ethDst := ed, ethSrc := es, etherType := 0x88D9, version := 1, tos := tos, reserved := r, opcode := op,
               realDst := rd, realSrc := rs, seq := seq } := by
  rw [(setLltdHeaderEx_eq env d s e v t o rd' rs' q rest es ed rs rd r seq op tos hd hs he hv ht ho hrd' hrs' hq hes hed hrs hrd hseq hop htos).1,
    @decodeBase_lltdHeader r ed es rd rs seq op tos rest hed hes hrd hrs, Nat.mod_eq_of_lt hseq]

/-- `compareEthernetAddress` as translated: true exactly when the six bytes are the same -/
theorem compare_translated (env : TW.Env) (a0 a1 a2 a3 a4 a5 b0 b1 b2 b3 b4 b5 : Nat) :
    (TW.compareEthernetAddress env [a0, a1, a2, a3, a4, a5] [b0, b1, b2, b3, b4, b5]).ret
      = decide ([a0, a1, a2, a3, a4, a5] = [b0, b1, b2, b3, b4, b5]) := by
  rw [TMapEq.compare_eq env [a0, a1, a2, a3, a4, a5] [b0, b1, b2, b3, b4, b5] (Nat.le_refl 6) (Nat.le_refl 6)]
  exact Bool.eq_iff_iff.mpr (by simp)

/-- end to end for the Hello: what the header and property writers, as translated from the C text and composed as `answerHello`
    composes them, leave in a zeroed buffer - cut at the final offset, i.e. exactly the bytes handed to the port - is accepted by the
    independent decoder as a well-formed frame from this station within the MTU -/
theorem hello_translated_wellFormed (base : TW.Env) (c : Cfg) (g : Glob) (hc : CfgOk c) (hmac : c.failMac = false) (tos gen : Nat)
    (cur app : List Nat) (k : Nat)
    (htos : tos < 256) (hgen : gen < 65536) (hcur : cur.length = 6) (happ : app.length = 6)
    (hif : c.iftype < u32) (hsp : c.speed < u32) (hm : c.mode < 256) (hr : c.rate < 65536) (hlo : -128 ≤ c.rssi) (hhi : c.rssi ≤ 127)
    (hb4 : isBytes c.ipv4) (hh : g.host.length < 18446744073709551616) (hl : c.ssid.length < 18446744073709551616)
    (he : TChain.EnvOk base) (hk : (helloTlvs c g).length ≤ k) :
    let env := envOf c g base
    let b1 := TW.setLltdHeader env (List.replicate 46 0 ++ List.replicate k 0) c.ourMac bcast 0 X.opHello tos
    let b2 := TW.setHelloHeader env b1.buffer b1.ret app cur gen
    let b3 := TChain.helloChain env c.wifi b2.buffer (b1.ret + b2.ret)
    wellFormed c.mac c.mtu (b3.1.take (b1.ret + b2.ret + b3.2)) = true := by
  have h := C03T.hello_frame_translated base c g hc tos gen cur app k htos hgen hcur happ hif hsp hm hr hlo hhi hb4 hh hl he hk
  simp only at h ⊢
  rw [h.1, h.2, List.take_left]
  exact C02.hello_wellFormed c g gen tos cur app hc hmac hcur happ

end LLTD.C02T
