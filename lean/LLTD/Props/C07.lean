/-
  C07 — Every observed probe is reported to the mapper exactly once.
  Model level: the list of pending observations (`sees`, newest first) is recorded without duplicates, listed in
  order by a Query up to the frame capacity, and only what was listed is dropped.
-/
import LLTD.Lemmas.Inv

namespace LLTD.C07
open LLTD

/-- frames addressed to other stations are never recorded -/
theorem not_for_us (c : Cfg) (w : World) (st : St) (img : List Nat) (h : fRealDst img ≠ c.ourMac) :
    parseProbe c w st img = { st := st, w := w, fx := [] } := by
  have hne : (fRealDst img != c.ourMac) = true := by simp [bne, h]
  exact parseProbe_cases (P := fun o => o = _) c w st img (fun _ => rfl) (fun e _ _ => Bool.noConfusion (hne.symm.trans e))
    (fun e _ _ _ => Bool.noConfusion (hne.symm.trans e)) (fun e _ _ _ => Bool.noConfusion (hne.symm.trans e))

/-- a Probe/Train for this station with a new (Ethernet source, real source) pair is recorded once, at the head
    (1024 = LLTD_SEE_LIST_MAX of lltdBlock.c, through `seesFull`) -/
theorem record_new (c : Cfg) (w : World) (st : St) (img : List Nat) (hus : fRealDst img = c.ourMac)
    (hroom : st.count < 1024) (hm : (w.malloc X.nodeBytes).2 = true)
    (hnew : st.sees.any (fun p => (obsOfFrame img).src == p.src && (obsOfFrame img).realSrc == p.realSrc) = false) :
    (parseProbe c w st img).st.sees = obsOfFrame img :: st.sees ∧ (parseProbe c w st img).fx = [] := by
  have hfull : seesFull st.count = false := by rw [seesFull_eq, decide_eq_false_iff_not]; omega
  refine parseProbe_cases (P := fun o => o.st.sees = obsOfFrame img :: st.sees ∧ o.fx = []) c w st img (fun h => ?_) (fun _ _ h => ?_)
    (fun _ _ _ h => ?_) (fun _ _ _ _ => ⟨rfl, rfl⟩)
  · rw [hfull] at h; simp [bne, hus] at h
  · rw [hm] at h; exact Bool.noConfusion h
  · exact Bool.noConfusion (hnew.symm.trans h)

/-- a duplicate (same Ethernet source and real source) is not recorded again -/
theorem record_dup (c : Cfg) (w : World) (st : St) (img : List Nat)
    (hdup : st.sees.any (fun p => (obsOfFrame img).src == p.src && (obsOfFrame img).realSrc == p.realSrc) = true) :
    (parseProbe c w st img).st = st ∧ (parseProbe c w st img).fx = [] :=
  parseProbe_cases (P := fun o => o.st = st ∧ o.fx = []) c w st img (fun _ => ⟨rfl, rfl⟩) (fun _ _ _ => ⟨rfl, rfl⟩)
    (fun _ _ _ _ => ⟨rfl, rfl⟩) (fun _ _ _ h => Bool.noConfusion (h.symm.trans hdup))

/-- the serialisation loop lists the first `rem` pending observations, in order, when they fit -/
theorem queryLoop_take (mtu : Nat) (sees : List Obs) :
    ∀ (rem off : Nat), off + 20 * (min rem sees.length) ≤ mtu →
      queryLoop mtu sees rem off = ((sees.take rem).flatMap obsWire, min rem sees.length) :=
  _root_.LLTD.queryLoop_take mtu sees

/-- THE QUERY THEOREM: the response lists the first min(pending, capacity) observations in order, says `more` iff
    some remain, carries the Query's sequence number, and exactly what was listed is dropped from the record -/
theorem query (c : Cfg) (w : World) (st : St) (img : List Nat) (hc : CfgOk c) (hi : St.Inv st) (hm : (w.malloc c.mtuEff).2 = true) :
    let n := min st.sees.length (queryMaxDescs c.mtuEff)
    (parseQuery c w st img).fx =
        [Fx.send ((w.malloc c.mtuEff).1.send).2 c.idx
          (queryFrame c img (fSeq img) n (decide (st.sees.length > n)) ((st.sees.take n).flatMap obsWire))] ∧
    (parseQuery c w st img).st.sees = st.sees.drop n := by
  intro n
  rw [parseQuery_ok c w st img hc hi.count hm n rfl]
  exact ⟨rfl, rfl⟩

/-- conservation over successive Queries (specification level): splitting a record into chunks of at most
    `cap > 0` and concatenating what each response listed gives back the record — nothing lost, nothing twice -/
def drain (cap : Nat) : Nat → List Obs → List (List Obs)
  | 0, _ => []
  | fuel + 1, p => if p.isEmpty then [] else p.take cap :: drain cap fuel (p.drop cap)

theorem drain_conserves (cap : Nat) (hcap : 0 < cap) (p : List Obs) : ∀ fuel, p.length ≤ fuel → (drain cap fuel p).flatten = p := by
  intro fuel
  induction fuel generalizing p with
  | zero => intro h; have : p = [] := List.eq_nil_of_length_eq_zero (by omega); subst this; rfl
  | succ k ih =>
    intro h
    simp only [drain]
    cases hp : p with
    | nil => rfl
    | cons a as =>
      simp only [List.isEmpty_cons, Bool.false_eq_true, if_false, List.flatten_cons]
      rw [ih ((a :: as).drop cap) (by
        rw [hp] at h
        simp only [List.length_drop, List.length_cons] at *
        omega)]
      exact List.take_append_drop cap (a :: as)

/-- a topology Reset discards the record -/
theorem reset_discards (st : St) : (resetSt st).sees = [] ∧ (resetSt st).count = 0 := ⟨rfl, rfl⟩

/-- non-vacuity: three pending observations, capacity 2: two Queries deliver 2 + 1 -/
example : (drain 2 4 [⟨1, [1], [2], [3]⟩, ⟨0, [1], [4], [3]⟩, ⟨1, [5], [2], [3]⟩]).map List.length = [2, 1] := by decide

/-- a Query whose response buffer the platform refuses: nothing is transmitted AND nothing is lost - the record of
    observations is exactly what it was (the seeded change C07_n takes the batch out of the record first) -/
theorem query_alloc_refused (c : Cfg) (w : World) (st : St) (img : List Nat) (hm : (w.malloc c.mtuEff).2 = false) :
    (parseQuery c w st img).fx = [] ∧ (parseQuery c w st img).st.sees = st.sees ∧ (parseQuery c w st img).st.count = st.count := by
  rw [parseQuery_fail c w st img hm]
  exact ⟨rfl, rfl, rfl⟩

end LLTD.C07
