/-
  C12 — Periodic Hellos are paced, purposeful and stop with the session.
-/
import LLTD.Props.C16
import LLTD.Spec.Tick
import LLTD.Lemmas.Lookup
import LLTD.Lemmas.Tick

namespace LLTD.C12
open LLTD LLTD.Spec

/-- the table-driven update leaves the enumeration in Pausing only if the session table is neither empty nor
    all complete — for every automaton state (also out-of-range ones) -/
theorem update_pausing (e : Fsm) (b : Band) (te ac : Bool) (nowS : Nat)
    (h : (enumUpdate e b te ac nowS).1.state = 1) : te = false ∧ ac = false := by
  revert h
  refine enumUpdate_cases (P := fun u => u.1.state = 1 → te = false ∧ ac = false) e b te ac nowS
    (fun h0 h => ?_) (fun _ _ h => ?_) (fun _ _ _ h => ?_) (fun _ ht ha _ => ⟨ht, ha⟩)
  · exact absurd (h0.symm.trans h) (by decide)
  · exact absurd h Nat.zero_ne_one
  · -- all sessions complete: no row of the enumeration table leads to Pausing on that input, and outside the table nothing moves
    exfalso
    simp only [stepEnumeration, stepPlain] at h
    by_cases hs : e.state < 3
    · exact (by decide : ∀ s' < 3, (lookup X.enumerationTable s' (X.enumSessComplete : Nat)).1 ≠ 1) _ hs h
    · rw [lookup_from_ge X.enumerationTable e.state _ 3 (by omega) (fun r hr => (enumerationTable_rows r hr).1)] at h
      exact hs (by have : e.state = 1 := h; omega)

/-- the Hello-timeout branch with the Darwin wiring: no Hello and the time stamp untouched, or exactly one Hello
    at `now` > 0, at least one second after the previous one, and the time stamp becomes `now` -/
theorem hello_branch (e : Fsm) (b : Band) (lastTx now : Nat) (hn : now < u64) (hl : lastTx ≤ now) :
    ((enumHello e b lastTx .wired now).2.2.2 = [] ∧ (enumHello e b lastTx .wired now).2.2.1 = lastTx) ∨
    ((enumHello e b lastTx .wired now).2.2.2 = [now] ∧ (enumHello e b lastTx .wired now).2.2.1 = now ∧ 0 < now ∧
      (lastTx = 0 ∨ lastTx + 1000 ≤ now)) := by
  unfold enumHello
  by_cases hd : b.helloTs > 0 ∧ now ≥ b.helloTs
  · rw [if_pos hd]; dsimp only
    by_cases hs : lastTx > 0 ∧ diff64 now lastTx < X.helloMinIntervalMs
    · rw [if_pos hs]; exact Or.inl ⟨rfl, rfl⟩
    · rw [if_neg hs]
      -- sent: the guard failed, so nothing was sent before or the last Hello is a second old
      rw [diff64_of_le now lastTx hl hn, X.helloMinIntervalMs_val] at hs
      exact Or.inr ⟨rfl, rfl, by omega, by omega⟩
  · rw [if_neg hd]; exact Or.inl ⟨rfl, rfl⟩

/-- one tick, Darwin wiring: no Hello (time stamp untouched), or exactly one Hello at `now`, and then the session
    table it saw (after the inactivity clear and the expiry sweep) was neither empty nor all complete -/
theorem tick_hello (s : TickState) (now : Nat) (hn : now < u64) (hl : s.lastTx ≤ now) :
    ((tick s .wired now).2 = [] ∧ (tick s .wired now).1.lastTx = s.lastTx) ∨
    ((tick s .wired now).2 = [now] ∧ (tick s .wired now).1.lastTx = now ∧ 0 < now ∧
      (s.lastTx = 0 ∨ s.lastTx + 1000 ≤ now) ∧
      tableEmptyOf (tick s .wired now).1.table = false ∧ allCompleteOf (tick s .wired now).1.table = false) := by
  unfold tick
  simp only []
  generalize ((tickMapStage s.mapping s.table (now / 1000)).2.map fun t => t.expire (now / 1000)) = tb
  unfold tickEnumStage
  match hen : s.enum with
  | none => left; exact ⟨rfl, rfl⟩
  | some (e, none) => left; exact ⟨rfl, rfl⟩
  | some (e, some b) =>
    simp only []
    by_cases hp : (enumUpdate e b (tableEmptyOf tb) (allCompleteOf tb) (now / 1000)).1.state = 1
    · rw [if_pos hp]
      exact (hello_branch _ _ s.lastTx now hn hl).imp_right fun ⟨hsent, hstamp, hpos, hgap⟩ =>
        ⟨hsent, hstamp, hpos, hgap, update_pausing e b _ _ _ hp⟩
    · rw [if_neg hp]; exact Or.inl ⟨rfl, rfl⟩

/-- purposeful: a periodic Hello is sent only while the session table holds a live session that is not complete
    (given the table invariant of C16, which every operation sequence maintains) -/
theorem gate (t : Table) (hi : C16.TInv t) (he : t.isEmpty = false) (ha : t.allComplete = false) :
    ∃ s ∈ (viewOf t).live, s.complete = false := by
  rw [hi.allc, List.all_eq_false] at ha
  obtain ⟨s, hs, hc⟩ := ha
  exact ⟨s, hs, by simpa using hc⟩

/-- silent once idle: with an empty session table (reset, expired, or dropped after 30 s without traffic) no tick sends -/
theorem idle_silent (s : TickState) (now : Nat) (hn : now < u64) (hl : s.lastTx ≤ now)
    (hidle : tableEmptyOf (tick s .wired now).1.table = true) : (tick s .wired now).2 = [] := by
  rcases tick_hello s now hn hl with h | ⟨-, -, -, -, hte, -⟩
  · exact h.1
  · rw [hidle] at hte; exact absurd hte (by simp)

/-! ## Pacing over every schedule

  A schedule is any sequence of: a tick at the current time, a clock advance, or ANY other operation on the
  automata / table / RepeatBand state that leaves the last-transmit time stamp alone (the Darwin wiring: only
  automata_tick writes it).  This covers every glue flow built from the public calls and direct field writes. -/

inductive Op where
  | tick
  | advance (ms : Nat)
  | other (f : TickState → TickState) (keeps : ∀ s, (f s).lastTx = s.lastTx)

/-- (state, clock) → (state, clock, Hellos sent by this op) -/
def stepOp (s : TickState) (now : Nat) : Op → TickState × Nat × List Nat
  | .tick => ((tick s .wired now).1, now, (tick s .wired now).2)
  | .advance ms => (s, now + ms, [])
  | .other f _ => (f s, now, [])

def runOps (s : TickState) (now : Nat) : List Op → List Nat
  | [] => []
  | op :: rest => (stepOp s now op).2.2 ++ runOps (stepOp s now op).1 (stepOp s now op).2.1 rest

/-- the largest clock value the schedule reaches: below 2^64 no difference `now - lastTx` wraps -/
def clockBound (now : Nat) : List Op → Nat
  | [] => now
  | .advance ms :: rest => clockBound (now + ms) rest
  | _ :: rest => clockBound now rest

/-- only the tick sends -/
theorem only_tick (s : TickState) (now : Nat) (op : Op) (h : ∀ (hp : op = .tick), False) : (stepOp s now op).2.2 = [] := by
  cases op with
  | tick => exact absurd rfl (fun hp => h hp)
  | advance ms => rfl
  | other f k => rfl

theorem le_clockBound (n : Nat) (l : List Op) : n ≤ clockBound n l := by
  induction l generalizing n with
  | nil => exact Nat.le_refl _
  | cons o r ih =>
    cases o with
    | tick => exact ih n
    | advance ms => exact Nat.le_trans (Nat.le_add_right n ms) (ih (n + ms))
    | other f k => exact ih n

theorem paced_of (now : Nat) (ops : List Op) (s : TickState) (hle : s.lastTx ≤ now) (hb : clockBound now ops < u64) :
    paced (if s.lastTx = 0 then none else some s.lastTx) (runOps s now ops) = true := by
  induction ops generalizing s now with
  | nil => split <;> rfl
  | cons op rest ih =>
    have hnow : now < u64 := Nat.lt_of_le_of_lt (le_clockBound now (op :: rest)) hb
    cases op with
    | advance ms => exact ih (now + ms) s (by omega) hb
    | other f k => simpa only [runOps, stepOp, List.nil_append, k] using ih now (f s) (by rw [k]; exact hle) hb
    | tick =>
      simp only [runOps, stepOp]
      rcases tick_hello s now hnow hle with ⟨hnone, hkeep⟩ | ⟨hsent, hstamp, hpos, hgap, -⟩
      · -- nothing sent: the stamp stands
        rw [hnone, List.nil_append, ← hkeep]; exact ih now _ (by rw [hkeep]; exact hle) hb
      · -- one Hello at `now`: a second after the stamp, and it becomes the stamp
        have hrest := ih now (tick s .wired now).1 (by rw [hstamp]; exact Nat.le_refl _) hb
        rw [hstamp, if_neg (by omega)] at hrest
        rw [hsent, List.singleton_append]
        split
        · exact hrest
        · simp only [paced, Bool.and_eq_true, decide_eq_true_eq]; exact ⟨by omega, hrest⟩

/-- PACING: however ticks, clock advances and any other operations interleave, two periodic Hellos on one
    interface are never less than one second apart -/
theorem pace (ops : List Op) (s : TickState) (now : Nat) (h0 : s.lastTx = 0) (hb : clockBound now ops < u64) :
    paced none (runOps s now ops) = true := by
  have := paced_of now ops s (by omega) hb
  rwa [h0] at this

/-- non-vacuity: a session that is not complete, Pausing, deadline passed: the tick sends, and one tick later it does not -/
example :
    let t := (Table.create.add [2,0,0,0,0,1] 1 1 0).1
    let s : TickState := { mapping := none, enum := some (⟨1, 0⟩, some { ni := 45, r := 0, begun := false, helloTs := 120, blockTs := 300 }),
                           table := some t, lastTx := 0 }
    (tick s .wired 5000).2 = [5000] ∧ (tick (tick s .wired 5000).1 .wired 5100).2 = [] := by
  decide

end LLTD.C12
