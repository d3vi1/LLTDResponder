/-
  C17 — Interfaces are isolated from each other, also when served concurrently.

  Sequential clause: the model keeps one record per interface context and a handler is given only the record,
  attribute set and buffer image of its own interface, so isolation of the *model* is structural; that the C
  code's global list realises this is validated by the correspondence runs on interleaved two-interface histories
  (`other_untouched`, `own_reaction_independent` are what is stated of the structural model; the list itself, with
  find-or-insert-in-front and update in place, is modelled below and shown to refine it: `list_refines`).
  Thread clause: the six schedules of the two-segment insertion, decided exhaustively.
-/
import LLTD.Model.Race
import LLTD.Model.Block

namespace LLTD.C17
open LLTD LLTD.Race

/-- two interface records; `rxOn i` handles a frame on interface i -/
structure Two where
  st0 : Option St
  st1 : Option St
  w   : World

def rxOn (c0 c1 : Cfg) (g : Glob) (s : Two) (i : Bool) (img : List Nat) : Two × List Fx :=
  if i then
    let r := parseFrame c1 g s.w s.st1 img
    ({ s with st1 := r.1, w := r.2.1 }, r.2.2.1)
  else
    let r := parseFrame c0 g s.w s.st0 img
    ({ s with st0 := r.1, w := r.2.1 }, r.2.2.1)

/-- handling a frame on one interface leaves the other interface's record untouched -/
theorem other_untouched (c0 c1 : Cfg) (g : Glob) (s : Two) (img : List Nat) :
    (rxOn c0 c1 g s false img).1.st1 = s.st1 ∧ (rxOn c0 c1 g s true img).1.st0 = s.st0 := by
  unfold rxOn; exact ⟨rfl, rfl⟩

/-- what a handler does to its own record and what it transmits is a function of that record, the interface's
    attributes, the frame and the state of the allocator only — in particular not of the other interface's record
    (stated for interface 0; `rxOn` treats the two alike) -/
theorem own_reaction_independent (c0 c1 : Cfg) (g : Glob) (s s' : Two) (img : List Nat)
    (h0 : s.st0 = s'.st0) (hw : s.w = s'.w) :
    (rxOn c0 c1 g s false img).2 = (rxOn c0 c1 g s' false img).2 ∧
    (rxOn c0 c1 g s false img).1.st0 = (rxOn c0 c1 g s' false img).1.st0 := by
  unfold rxOn; simp only [h0, hw, Bool.false_eq_true, if_false]; exact ⟨trivial, trivial⟩

/-- `g_iface_states`: newest record first, keyed by the interface context pointer -/
abbrev GList := List (Nat × St)

/-- the walk of `lltd_state_for_iface` -/
def lookupCtx : GList → Nat → Option St
  | [], _ => none
  | (k, s) :: rest, ctx => if k = ctx then some s else lookupCtx rest ctx

/-- the handler works on the record in place -/
def writeBack : GList → Nat → St → GList
  | [], _, _ => []
  | (k, s) :: rest, ctx, st => if k = ctx then (k, st) :: writeBack rest ctx st else (k, s) :: writeBack rest ctx st

/-- parseFrame on the real data structure: `lltd_state_for_iface` walks the list and, on a miss, allocates a record and puts
    it in front; the handler then works on that record in place -/
def parseFrameG (cfgOf : Nat → Cfg) (g : Glob) (w : World) (l : GList) (ctx : Nat) (img : List Nat) : GList × World × List Fx × Option Fault :=
  if !rdOk img 0 (X.sizeofDemux + 4) then (l, w, [], some (.oobRead "parseFrame.header")) else
  match lookupCtx l ctx with
  | some s =>
    let o := parseFrameSt (cfgOf ctx) g w s img
    (writeBack l ctx o.st, o.w, o.fx, o.fault)
  | none =>
    if !(w.malloc X.stateRecBytes).2 then (l, (w.malloc X.stateRecBytes).1, [], none) else
    let o := parseFrameSt (cfgOf ctx) g (w.malloc X.stateRecBytes).1 {} img
    ((ctx, o.st) :: l, o.w, o.fx, o.fault)

def keysOf : GList → List Nat
  | [] => []
  | (k, _) :: rest => k :: keysOf rest

theorem lookup_writeBack (l : GList) (ctx ctx' : Nat) (st : St) :
    lookupCtx (writeBack l ctx st) ctx' = if ctx' = ctx then (lookupCtx l ctx).map (fun _ => st) else lookupCtx l ctx' := by
  induction l with
  | nil => simp [lookupCtx, writeBack]
  | cons p ps ih =>
    obtain ⟨k, s⟩ := p
    by_cases hk : k = ctx
    · by_cases hc : ctx' = ctx
      · simp [lookupCtx, writeBack, hk, hc]
      · have : ¬ ctx = ctx' := fun e => hc e.symm
        simp [lookupCtx, writeBack, hk, hc, this, ih]
    · by_cases hc : ctx' = ctx
      · subst hc
        simp only [if_true] at ih
        simp [lookupCtx, writeBack, hk, ih]
      · by_cases hk2 : k = ctx'
        · simp [lookupCtx, writeBack, hc, hk2]
        · simp [lookupCtx, writeBack, hk, hc, hk2, ih]

theorem keys_writeBack (l : GList) (ctx : Nat) (st : St) : keysOf (writeBack l ctx st) = keysOf l := by
  induction l with
  | nil => rfl
  | cons p ps ih =>
    obtain ⟨k, s⟩ := p
    by_cases hk : k = ctx <;> simp [writeBack, keysOf, hk, ih]

theorem lookup_none_notin (l : GList) (ctx : Nat) (h : lookupCtx l ctx = none) : ctx ∉ keysOf l := by
  induction l with
  | nil => simp [keysOf]
  | cons p ps ih =>
    obtain ⟨k, s⟩ := p
    by_cases hk : k = ctx
    · simp [lookupCtx, hk] at h
    · simp only [lookupCtx, hk, if_false] at h
      simp only [keysOf, List.mem_cons, not_or]
      exact ⟨fun e => hk e.symm, ih h⟩

theorem lookup_unchanged (l : GList) (ctx ctx' : Nat) :
    lookupCtx l ctx' = if ctx' = ctx then lookupCtx l ctx else lookupCtx l ctx' := by
  split <;> simp [*]

theorem lookup_front (l : GList) (ctx ctx' : Nat) (s : St) :
    lookupCtx ((ctx, s) :: l) ctx' = if ctx' = ctx then some s else lookupCtx l ctx' := by
  simp only [lookupCtx, eq_comm]

/-- THE LIST REFINEMENT: handling a frame on the real data structure does to the record of its own context, to the world and
    to the wire exactly what the structural model says, and leaves the record of EVERY other context as it was -/
theorem list_refines (cfgOf : Nat → Cfg) (g : Glob) (w : World) (l : GList) (ctx : Nat) (img : List Nat) :
    (∀ ctx', lookupCtx (parseFrameG cfgOf g w l ctx img).1 ctx' =
        if ctx' = ctx then (parseFrame (cfgOf ctx) g w (lookupCtx l ctx) img).1 else lookupCtx l ctx') ∧
    (parseFrameG cfgOf g w l ctx img).2 = (parseFrame (cfgOf ctx) g w (lookupCtx l ctx) img).2 := by
  unfold parseFrameG parseFrame
  by_cases hrd : (!rdOk img 0 (X.sizeofDemux + 4)) = true
  · rw [if_pos hrd, if_pos hrd]; exact ⟨lookup_unchanged l ctx, rfl⟩
  rw [if_neg hrd, if_neg hrd]
  cases hl : lookupCtx l ctx with
  | some s => exact ⟨fun ctx' => by rw [lookup_writeBack, hl]; rfl, rfl⟩
  | none =>
    dsimp only
    by_cases hm : (!(w.malloc X.stateRecBytes).2) = true
    · rw [if_pos hm, if_pos hm]; exact ⟨hl ▸ lookup_unchanged l ctx, rfl⟩
    · rw [if_neg hm, if_neg hm]; exact ⟨fun ctx' => lookup_front l ctx ctx' _, rfl⟩

/-- the list never holds two records for one context -/
theorem keys_preserved (cfgOf : Nat → Cfg) (g : Glob) (w : World) (l : GList) (ctx : Nat) (img : List Nat) (h : (keysOf l).Nodup) :
    (keysOf (parseFrameG cfgOf g w l ctx img).1).Nodup := by
  unfold parseFrameG
  by_cases hrd : (!rdOk img 0 (X.sizeofDemux + 4)) = true
  · rw [if_pos hrd]; exact h
  · rw [if_neg hrd]
    cases hl : lookupCtx l ctx with
    | some s => simp only []; rw [keys_writeBack]; exact h
    | none =>
      simp only []
      by_cases hm : (!(w.malloc X.stateRecBytes).2) = true
      · rw [if_pos hm]; exact h
      · rw [if_neg hm]
        simp only [keysOf, List.nodup_cons]
        exact ⟨lookup_none_notin l ctx hl, h⟩

/-- an interleaving of frames (context, image) run over the list; each step is covered by `list_refines` -/
def runG (cfgOf : Nat → Cfg) (g : Glob) : World × GList → List (Nat × List Nat) → World × GList
  | s, [] => s
  | (w, l), (ctx, img) :: rest => runG cfgOf g ((parseFrameG cfgOf g w l ctx img).2.1, (parseFrameG cfgOf g w l ctx img).1) rest

theorem keys_history (cfgOf : Nat → Cfg) (g : Glob) (frames : List (Nat × List Nat)) (w : World) (l : GList) (h : (keysOf l).Nodup) :
    (keysOf (runG cfgOf g (w, l) frames).2).Nodup := by
  induction frames generalizing w l with
  | nil => exact h
  | cons f rest ih =>
    obtain ⟨ctx, img⟩ := f
    simp only [runG]
    exact ih _ _ (keys_preserved cfgOf g w l ctx img h)

/-- there IS a schedule of two threads seeing their first frame together that loses an interface's state -/
theorem race_witness : ∃ s ∈ schedules, lost s ≠ [] := by decide

/-- exactly the four schedules in which both threads complete segment 1 before either completes segment 2 lose a
    record — the one whose `head := node` is overwritten -/
theorem lost_table : schedules.map lost = [[], [0], [1], [0], [1], []] := by decide

/-- with the insertion atomic (both segments under one lock) no order of the two threads loses anything -/
theorem locked_ok : (found (runLocked [0, 1]) 0 = true ∧ found (runLocked [0, 1]) 1 = true) ∧
    (found (runLocked [1, 0]) 0 = true ∧ found (runLocked [1, 0]) 1 = true) := by decide

end LLTD.C17
