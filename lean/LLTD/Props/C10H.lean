/-
  C10 — end to end, in three parts.  Specification level, independent of the model: a pending observation is never silently
  lost (`spec_conservation`, `drained`).  Model level: A's Probe / Train for a descriptor addressed to B, delivered into B's
  receive buffer, becomes pending at B (`peer_pending`).  `end_to_end` composes the two over every continuation at B.
-/
import LLTD.Lemmas.History
import LLTD.Props.C10

namespace LLTD.C10H
open LLTD LLTD.Spec

theorem step_keeps (own : List Nat) (dom : Nat) (g : Glob) (s : SpecSt) (f : List Nat) (rep : List ObsDesc) (o : ObsDesc)
    (ho : o ∈ s.pending) (hnr : isReset0 f = false) :
    o ∈ (specStep own dom g s f rep).pending ∨ (isQuery f = true ∧ o ∈ rep) := by
  rcases specStep_pending own dom g s f rep with h | h0 | ⟨hq, h⟩ | ⟨o', h⟩
  · rw [h]; exact .inl ho
  · rw [hnr] at h0; exact Bool.noConfusion h0
  · rw [h]; exact (mem_fold_remove o rep s.pending ho).imp_right fun h => ⟨hq, h⟩
  · rw [h]; exact .inl (List.mem_cons_of_mem _ ho)

def specFinal (own : List Nat) (dom : Nat) : SpecSt → List RxObs → SpecSt
  | s, [] => s
  | s, r :: rest => specFinal own dom (specStep own dom r.glob s r.frame (reportedOf r.fx)) rest

/-- everything the mapper read in QueryResp frames answering Queries of the trace -/
def allReported (t : List RxObs) : List ObsDesc :=
  t.flatMap (fun r => if isQuery r.frame then reportedOf r.fx else [])

/-- SPECIFICATION-LEVEL CONSERVATION: over every trace without a topology Reset -/
theorem spec_conservation (own : List Nat) (dom : Nat) (t : List RxObs) :
    ∀ (s : SpecSt) (o : ObsDesc), o ∈ s.pending → (∀ r ∈ t, isReset0 r.frame = false) →
      o ∈ (specFinal own dom s t).pending ∨ o ∈ allReported t := by
  induction t with
  | nil => intro s o ho _; exact Or.inl ho
  | cons r rest ih =>
    intro s o ho hnr
    simp only [specFinal, allReported, List.flatMap_cons, List.mem_append]
    rcases step_keeps own dom r.glob s r.frame (reportedOf r.fx) o ho (hnr r (by simp)) with h | ⟨hq, h⟩
    · rcases ih _ o h (fun x hx => hnr x (by simp [hx])) with h2 | h2
      · exact Or.inl h2
      · exact Or.inr (Or.inr h2)
    · exact Or.inr (Or.inl (by simp [hq, h]))

/-- inside C07's domain, a QueryResp that says "no more" leaves nothing pending -/
theorem drained (own : List Nat) (dom : Nat) (s : SpecSt) (r : RxObs) (hq : isQuery r.frame = true) (hov : s.overflow = false)
    (hr0 : isReset0 r.frame = false) (hr1 : isReset r.frame = false) (hd : isDiscover r.frame = false) (he : isEmit r.frame = false)
    (hl : ¬ r.frame.length < 32)
    (hold : holdsC07Rx s r = true) (hmore : ∀ f q, sends r.fx = [f] → decodeQueryResp f = some q → q.more = false) :
    (specStep own dom r.glob s r.frame (reportedOf r.fx)).pending = [] := by
  -- what the mapper read is a sub-multiset of the pending observations and, saying "no more", as long as their list
  obtain ⟨ds, hrep, hsub, hlen⟩ : ∃ ds, reportedOf r.fx = ds ∧ subMultiset ds s.pending = true ∧ s.pending.length ≤ ds.length := by
    unfold holdsC07Rx at hold
    rw [hq, Bool.not_true, if_neg Bool.false_ne_true, hov, if_neg Bool.false_ne_true] at hold
    split at hold
    · next f hs =>
      split at hold
      · next q hdq =>
        simp only [Bool.and_eq_true, beq_iff_eq] at hold
        obtain ⟨⟨⟨_, hsub⟩, _⟩, hm⟩ := hold
        rw [hmore f q hs hdq] at hm
        have := of_decide_eq_false hm.symm
        exact ⟨q.descs, by unfold reportedOf; rw [hs]; simp [hdq], hsub, by omega⟩
      · cases hold
    · cases hold
  simp only [specStep, hl, if_false, hr0, hr1, hd, he, hq, if_true, Bool.false_eq_true, hrep]
  exact fold_remove_all ds s.pending hsub hlen

theorem peer_pending (a b : Cfg) (g : Glob) (s : SpecSt) (src : Mac) (ty : Nat) (tail : List Nat) (rep : List ObsDesc)
    (ha : CfgOk a) (hb : CfgOk b) (hma : a.failMac = false) (hsrc : src.length = 6) (hty : ty ≤ 1)
    (htail : 4 ≤ tail.length) (hroom : s.pending.length < 300) :
    let img := C06.probeFrame a src b.mac ty ++ tail
    ∃ o ∈ (specStep b.mac 300 g s img rep).pending, o.realSrc = a.mac ∧ o.src = src := by
  have hoa := ourMac_eq a hma
  obtain ⟨f2, f3, f4, hk, hlen⟩ := C10.probeFrame_fields a src b.mac ty tail ha hsrc hb.mac6
  simp only []
  generalize C06.probeFrame a src b.mac ty ++ tail = img at *
  have hus : ¬ (LLTD.fRealDst img != b.mac) = true := by rw [f3]; simp
  rw [specStep_req _ _ _ _ _ _ (by omega), hk, specReact, if_neg hus]
  by_cases hdup : s.pending.any (fun p => obsKey p == obsKey (probeDesc img)) = true
  · -- an observation with the same key is pending already
    rw [if_pos hdup]
    obtain ⟨p, hp', hk⟩ := List.any_eq_true.mp hdup
    simp only [obsKey, probeDesc, beq_iff_eq, Prod.mk.injEq] at hk
    exact ⟨p, hp', by rw [hk.2, f4, hoa], by rw [hk.1, f2]⟩
  · rw [if_neg hdup, if_neg (by omega)]
    exact ⟨probeDesc img, List.mem_cons_self .., by rw [probeDesc, f4, hoa], by rw [probeDesc, f2]⟩

/-- END TO END, from the frame on: `C06.probeFrame a src b.mac ty` is what A transmits for a descriptor addressed to B (that
    is `C06.emit_exact`; A's handler does not occur here).  Delivered unmodified into B's receive buffer (any tail), it leaves an
    observation with A as real source and the descriptor's source as Ethernet source pending at B, and over EVERY further
    history at B without a topology Reset this observation is still pending or has been listed in one of the QueryResp frames B
    sent (as the mapper decodes them). -/
theorem end_to_end (a b : Cfg) (g : Glob) (src : Mac) (ty : Nat) (tail : List Nat)
    (ha : CfgOk a) (hb : CfgOk b) (hma : a.failMac = false) (hsrc : src.length = 6) (hty : ty ≤ 1) (htail : 4 ≤ tail.length)
    (w : World) (stB : St) (s : SpecSt) (hroom : s.pending.length < 300)
    (rest : List (List Nat)) (hnr : ∀ img ∈ rest, isReset0 img = false) :
    let img := C06.probeFrame a src b.mac ty ++ tail
    let t := C05.runObs b g w stB (img :: rest)
    ∃ o : ObsDesc, o.realSrc = a.mac ∧ o.src = src ∧
      (o ∈ (specFinal b.mac 300 s t).pending ∨ o ∈ allReported t) := by
  intro img t
  obtain ⟨o, ho, h1, h2⟩ := peer_pending a b g s src ty tail (reportedOf (obsOf b g img (parseFrameSt b g w stB img).fx).fx)
    ha hb hma hsrc hty htail hroom
  refine ⟨o, h1, h2, ?_⟩
  show o ∈ (specFinal b.mac 300 _ (C05.runObs b g _ _ rest)).pending ∨ o ∈ allReported (_ :: C05.runObs b g _ _ rest)
  rw [allReported, List.flatMap_cons, List.mem_append]
  exact (spec_conservation b.mac 300 _ _ o ho fun r hr =>
    hnr r.frame (by rw [← runObs_frame b g rest]; exact List.mem_map_of_mem hr)).imp_right .inr

/-- non-vacuity of the specification-level part: three pending, two reported, one stays -/
example : (([⟨1,[1],[2],[3]⟩, ⟨0,[4],[5],[3]⟩] : List ObsDesc).foldl (fun p d => removeFirst d p)
    [⟨1,[1],[2],[3]⟩, ⟨0,[4],[5],[3]⟩, ⟨1,[6],[7],[3]⟩]) = [⟨1,[6],[7],[3]⟩] := by decide

end LLTD.C10H
