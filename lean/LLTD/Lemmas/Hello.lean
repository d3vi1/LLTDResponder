/- The Hello frame the model builds, seen through the independent decoder. -/
import LLTD.Lemmas.Header
import LLTD.Lemmas.Tlv

namespace LLTD
open LLTD.Spec

/-- what the port contract guarantees about an interface's attribute record -/
structure CfgOk (c : Cfg) : Prop where
  mac6   : c.mac.length = 6
  ipv4   : c.ipv4.length = 4
  ipv6   : c.ipv6.length = 16
  bssid6 : c.bssid.length = 6
  mtuLo  : 576 ≤ c.mtu
  mtuHi  : c.mtu ≤ 9216

theorem ourMac_length (c : Cfg) (h : CfgOk c) : c.ourMac.length = 6 := by
  unfold Cfg.ourMac; split
  · rfl
  · exact h.mac6

theorem ourMac_eq (c : Cfg) (h : c.failMac = false) : c.ourMac = c.mac := by simp [Cfg.ourMac, h]

theorem ipv4_value_length (c : Cfg) (hc : CfgOk c) : (if c.failIpv4 = true then zeros 4 else c.ipv4).length = 4 := by
  split
  · rfl
  · exact hc.ipv4

theorem ipv6_value_length (c : Cfg) (hc : CfgOk c) : (if c.failIpv6 = true then zeros 16 else c.ipv6).length = 16 := by
  split
  · rfl
  · exact hc.ipv6

/-- types and value lengths of the wireless properties: the only part of the list that has alternatives -/
theorem wifiProps_shape (c : Cfg) (hc : CfgOk c) :
    (wifiProps c).map (fun p => (p.1, p.2.length)) =
      if c.wifi then [(4, 1)] ++ (if c.failBssid then [] else [(5, 6)]) ++ [(6, min 32 c.ssid.length), (9, 2), (13, 4)] else [] := by
  unfold wifiProps
  split
  · split <;> simp [hc.bssid6]
  · rfl

theorem helloProps_shape (c : Cfg) (g : Glob) (hc : CfgOk c) :
    (helloProps c g).map (fun p => (p.1, p.2.length)) =
      [(1, 6), (2, 4), (3, 4), (7, 4), (8, 16), (10, 8), (12, 4), (15, min 32 g.host.length)] ++
      (wifiProps c).map (fun p => (p.1, p.2.length)) ++ [(20, 4), (14, 0), (17, 0)] := by
  have hm := ourMac_length c hc
  simp [helloProps, hm, ipv4_value_length c hc, ipv6_value_length c hc]

theorem helloProps_lengths (c : Cfg) (g : Glob) (hc : CfgOk c) :
    (helloProps c g).all (fun p => legalLen p.1 p.2.length) = true := by
  have hall : (helloProps c g).all (fun p => legalLen p.1 p.2.length) =
      ((helloProps c g).map (fun p => (p.1, p.2.length))).all (fun q => legalLen q.1 q.2) := by rw [List.all_map]; rfl
  -- the two properties cut to 32 bytes: machine name and SSID
  have hn : legalLen 15 (min 32 g.host.length) = true := decide_eq_true (Nat.min_le_left _ _)
  have hs : legalLen 6 (min 32 c.ssid.length) = true := decide_eq_true (Nat.min_le_left _ _)
  rw [hall, helloProps_shape c g hc, wifiProps_shape c hc]
  split
  · split <;> simp only [List.all_append, List.all_cons, List.all_nil, hn, hs] <;> rfl
  · simp only [List.all_append, List.all_cons, List.all_nil, hn]; rfl

/-- no type twice: by evaluation on each of the three shapes of the list (wired, wireless without and with BSSID) -/
theorem helloTypes_noDup (c : Cfg) (g : Glob) : noDupTypes (helloProps c g) = true := by
  unfold helloProps wifiProps
  cases c.wifi
  · rfl
  · cases c.failBssid <;> rfl

/-- 160 = 94 (fixed part, name of 32 bytes) + 55 (wireless part with BSSID, SSID of 32 bytes) + 10 + end marker -/
theorem helloTlvs_length_le (c : Cfg) (g : Glob) (hc : CfgOk c) : (helloTlvs c g).length ≤ 160 := by
  have hsum : ((helloProps c g).map (fun p => 2 + p.2.length)).sum =
      (((helloProps c g).map (fun p => (p.1, p.2.length))).map (fun q => 2 + q.2)).sum := by rw [List.map_map]; rfl
  have hwifi : (((wifiProps c).map (fun p => (p.1, p.2.length))).map (fun q => 2 + q.2)).sum ≤ 55 := by
    rw [wifiProps_shape c hc]
    split
    · split <;> simp <;> omega
    · exact Nat.zero_le _
  rw [helloTlvs_eq, encodeTlvs_length, hsum, helloProps_shape c g hc]
  simp only [List.map_append, List.sum_append, List.map_cons, List.map_nil, List.sum_cons, List.sum_nil]
  omega

theorem helloHeader_length (gen : Nat) (cur app : Mac) (h1 : cur.length = 6) (h2 : app.length = 6) :
    (helloHeader gen cur app).length = 14 := by
  simp [helloHeader, h1, h2]

theorem helloFrame_eq (c : Cfg) (g : Glob) (gen tos : Nat) (cur app : Mac) :
    helloFrame c g gen tos cur app =
      lltdHeader 0 bcast c.ourMac bcast c.ourMac 0 X.opHello tos ++ (helloHeader gen cur app ++ helloTlvs c g) := by
  unfold helloFrame; rw [List.append_assoc]

theorem helloFrame_length (c : Cfg) (g : Glob) (gen tos : Nat) (cur app : Mac) (hc : CfgOk c)
    (h1 : cur.length = 6) (h2 : app.length = 6) :
    (helloFrame c g gen tos cur app).length = 46 + (helloTlvs c g).length := by
  have hm := ourMac_length c hc
  rw [helloFrame_eq, List.length_append, List.length_append, lltdHeader_length rfl hm rfl hm,
    helloHeader_length gen cur app h1 h2]
  omega

theorem decodeBase_helloFrame (c : Cfg) (g : Glob) (gen tos : Nat) (cur app : Mac) (hc : CfgOk c) :
    decodeBase (helloFrame c g gen tos cur app) =
      some { ethDst := bcast, ethSrc := c.ourMac, etherType := 0x88D9, version := 1, tos := tos, reserved := 0, opcode := X.opHello,
             realDst := bcast, realSrc := c.ourMac, seq := 0 } := by
  have hm := ourMac_length c hc
  rw [helloFrame_eq]; exact decodeBase_lltdHeader rfl hm rfl hm

theorem decodeHello_some (f : List Nat) (x : HelloHdr) (h : decodeHello f = some x) :
    decodeBase f = some x.base ∧ x.base.opcode = 1 ∧ 47 ≤ f.length := by
  unfold decodeHello at h
  cases hb : decodeBase f with
  | none => rw [hb] at h; cases h
  | some b =>
    rw [hb] at h; dsimp only at h
    by_cases hc : b.opcode ≠ 1 ∨ f.length < 47
    · rw [if_pos hc] at h; cases h
    · rw [if_neg hc] at h
      cases hp : parseTlvs f.length (f.drop 46) with
      | none => rw [hp] at h; cases h
      | some ps => rw [hp] at h; cases h; exact ⟨rfl, Decidable.not_not.mp (not_or.mp hc).1, Nat.not_lt.mp (not_or.mp hc).2⟩

theorem helloHeader_fields (gen : Nat) (cur app : Mac) (tl : List Nat) (h1 : cur.length = 6) (h2 : app.length = 6) :
    slice (helloHeader gen cur app ++ tl) 0 2 = be 2 gen ∧ slice (helloHeader gen cur app ++ tl) 2 6 = cur ∧
    slice (helloHeader gen cur app ++ tl) 8 6 = app := by
  simp only [helloHeader, List.append_assoc, slice_append_right, slice_prefix, h1, h2, be_length, Nat.le_refl, Nat.reduceLeDiff,
    Nat.reduceSub, and_self]

theorem parse_helloPayload (hdr hh : List Nat) (ps : List (Nat × List Nat)) (hl : hdr.length = 32) (h14 : hh.length = 14)
    (h0 : ∀ p ∈ ps, p.1 ≠ 0) :
    47 ≤ (hdr ++ (hh ++ encodeTlvs ps)).length ∧
    parseTlvs (hdr ++ (hh ++ encodeTlvs ps)).length ((hdr ++ (hh ++ encodeTlvs ps)).drop 46) = some ps := by
  have hpos := length_lt_encodeTlvs ps
  have hlen : (hdr ++ (hh ++ encodeTlvs ps)).length = 46 + (encodeTlvs ps).length := by
    rw [List.length_append, List.length_append, hl, h14]; omega
  rw [drop_append_append (by rw [hl, h14]), hlen]
  exact ⟨by omega, parse_encode ps h0 _ (by omega)⟩

theorem decodeHello_payload {hdr : List Nat} {b : Base} {gen : Nat} {cur app : Mac} {ps : List (Nat × List Nat)}
    (hb : ∀ {rest}, decodeBase (hdr ++ rest) = some b) (hl : hdr.length = 32) (hop : b.opcode = 1)
    (h1 : cur.length = 6) (h2 : app.length = 6) (h0 : ∀ p ∈ ps, p.1 ≠ 0) :
    decodeHello (hdr ++ (helloHeader gen cur app ++ encodeTlvs ps)) =
      some { base := b, generation := gen % 65536, currentMapper := cur, apparentMapper := app, tlvs := ps } := by
  obtain ⟨hge, hparse⟩ := parse_helloPayload hdr _ ps hl (helloHeader_length gen cur app h1 h2) h0
  obtain ⟨hgen, hcur, happ⟩ := helloHeader_fields gen cur app (encodeTlvs ps) h1 h2
  unfold decodeHello
  rw [hb, hparse, slice_append_add _ _ 32 0 2 (by rw [hl]), slice_append_add _ _ 34 2 6 (by rw [hl]),
    slice_append_add _ _ 40 8 6 (by rw [hl]), hgen, hcur, happ, unbe_be]
  simp only [hop, ne_eq, not_true_eq_false, false_or, if_neg (Nat.not_lt.mpr hge)]

/-- the Hello clause of `wellFormed`: what it asks is said of the list, not of the bytes -/
theorem helloWellFormed_payload (hdr hh : List Nat) (ps : List (Nat × List Nat)) (hl : hdr.length = 32) (h14 : hh.length = 14)
    (hfirst : ∃ v tl, ps = (1, v) :: tl) (hlegal : ps.all (fun p => legalLen p.1 p.2.length) = true) (hnd : noDupTypes ps = true) :
    helloWellFormed (hdr ++ (hh ++ encodeTlvs ps)) = true := by
  obtain ⟨hge, hparse⟩ := parse_helloPayload hdr hh ps hl h14 (types_ne_zero_of_legal _ hlegal)
  unfold helloWellFormed
  rw [hparse, decide_eq_true hge]
  obtain ⟨v, tl, rfl⟩ := hfirst
  simp only [hlegal, hnd, beq_self_eq_true, Bool.and_self]

theorem decodeHello_helloFrame (c : Cfg) (g : Glob) (gen tos : Nat) (cur app : Mac) (hc : CfgOk c)
    (h1 : cur.length = 6) (h2 : app.length = 6) :
    decodeHello (helloFrame c g gen tos cur app) =
      some { base := { ethDst := bcast, ethSrc := c.ourMac, etherType := 0x88D9, version := 1, tos := tos, reserved := 0,
                       opcode := 1, realDst := bcast, realSrc := c.ourMac, seq := 0 },
             generation := gen % 65536, currentMapper := cur, apparentMapper := app, tlvs := helloProps c g } := by
  have hm := ourMac_length c hc
  rw [helloFrame_eq, helloTlvs_eq, decodeHello_payload (decodeBase_lltdHeader (op := X.opHello) rfl hm rfl hm)
    (lltdHeader_length rfl hm rfl hm) X.opHello_val h1 h2 (types_ne_zero_of_legal _ (helloProps_lengths c g hc))]
  rfl

end LLTD
