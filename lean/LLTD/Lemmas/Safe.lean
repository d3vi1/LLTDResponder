/- No handler ever faults (reads outside the image, writes outside its allocation), whatever the allocator and the
   transmit path do. -/
import LLTD.Lemmas.Frame

namespace LLTD

/-- nothing to state: `sendProbeMsg` reads no byte of the image and writes only into frames it builds, so it has no fault component -/
theorem sendProbeMsg_fault_free : True := trivial

/-- the uint16_t offset of a descriptor does not wrap below 2^16 -/
theorem emitOff_eq (j : Nat) (hj : 14 * j < 65536) : emitOff j = 34 + 14 * j := by
  unfold emitOff; simp only [X.sizeofDemux_val, X.sizeofEmitHdr_val, X.sizeofEmitee_val]
  rw [Nat.mod_eq_of_lt (by unfold u16; omega)]; omega

/-- the two reads at fixed offsets: what parseFrame wants of every frame, and the descriptor count of an Emit -/
theorem rdOk_header (img : List Nat) (h : 36 ≤ img.length) : rdOk img 0 (X.sizeofDemux + 4) = true :=
  rdOk_of_le _ _ _ (by rw [X.sizeofDemux_val]; omega)

theorem rdOk_numDescs (img : List Nat) (h : 34 ≤ img.length) : rdOk img X.sizeofDemux 2 = true :=
  rdOk_of_le _ _ _ (by rw [X.sizeofDemux_val]; omega)

theorem rdOk_emitOff (img : List Nat) (j : Nat) (hj : 14 * j < 65536) (hin : 34 + (j + 1) * 14 ≤ img.length) :
    rdOk img (emitOff j) X.sizeofEmitee = true := by
  rw [emitOff_eq j hj]; apply rdOk_of_le; rw [X.sizeofEmitee_val]; omega

/-- the descriptor loop never reads past the image when the count was clamped to what an MTU-sized buffer holds -/
theorem emitLoop_safe (c : Cfg) (st : St) (img : List Nat) (n L : Nat) (hL : L ≤ img.length) (hL2 : L ≤ 65535) (hn : 34 + n * 14 ≤ L)
    (k i : Nat) (w : World) (fx : List Fx) (hik : i + k = n) : (emitLoop c st img n k i w fx).2.2 = none := by
  obtain ⟨j, -, -, hj⟩ := emitLoop_walk (Q := fun _ _ _ => True) c st img n k i w fx (fun _ _ _ _ _ _ _ => trivial) trivial
  rcases hj with ⟨-, h⟩ | ⟨hlt, hrd⟩
  · exact h
  · rw [rdOk_emitOff img j (by omega) (by omega)] at hrd; exact Bool.noConfusion hrd

theorem parseEmit_safe (c : Cfg) (w : World) (st : St) (img : List Nat) (hc : CfgOk c) (hlen : c.mtu ≤ img.length) :
    (parseEmit c w st img).fault = none := by
  have hlo := hc.mtuLo
  refine parseEmit_cases (P := fun o => o.fault = none) c w st img (fun _ => rfl) (fun _ hshort => ?_) (fun _ _ n hn => ?_)
  · rw [rdOk_numDescs img (by omega)] at hshort; exact Bool.noConfusion hshort
  · refine emitLoop_safe c _ img n c.mtu hlen (by have := hc.mtuHi; omega) ?_ n 0 w [] (by omega)
    have := Nat.div_mul_le_self (c.mtu - X.sizeofDemux - X.sizeofEmitHdr) X.sizeofEmitee
    simp only [X.sizeofDemux_val, X.sizeofEmitHdr_val, X.sizeofEmitee_val] at this hn
    omega

theorem answerHello_safe (c : Cfg) (g : Glob) (w : World) (st : St) (img : List Nat) (hc : CfgOk c) (hl : 36 ≤ img.length) :
    (answerHello c g w st img).fault = none :=
  answerHello_cases (P := fun o => o.fault = none) c g w st img (fun _ => rfl)
    (fun _ h => absurd h (helloFrame_fits c g _ _ img hc hl)) (fun _ _ => rfl)

theorem parseQuery_safe (c : Cfg) (w : World) (st : St) (img : List Nat) (hc : CfgOk c) : (parseQuery c w st img).fault = none :=
  parseQuery_cases (P := fun o => o.fault = none) c w st img (fun _ => rfl) (fun _ h => absurd h (queryHeader_fits c hc))
    (fun _ _ _ _ _ _ => rfl)

theorem parseQueryLargeTlv_safe (c : Cfg) (g : Glob) (w : World) (st : St) (img : List Nat) :
    (parseQueryLargeTlv c g w st img).fault = none := by
  rw [parseQueryLargeTlv_eq]
  split
  · rfl
  · exact respond_cases (P := fun o => o.fault = none) c img _ _ (fun _ => rfl) (fun _ => rfl)

/-- `hlen`: the receive buffer has the interface's MTU size -/
theorem parseFrameSt_safe (c : Cfg) (g : Glob) (w : World) (st : St) (img : List Nat) (hc : CfgOk c)
    (hlen : c.mtu ≤ img.length) (hl : 36 ≤ img.length) : (parseFrameSt c g w st img).fault = none := by
  rw [parseFrameSt_req]
  cases reqOf img <;> simp only [reactTo]
  case discover =>
    split
    · exact answerHello_safe c g w _ img hc hl
    · rfl
  case emit => exact parseEmit_safe c w st img hc hlen
  case probe => exact congrArg Out.fault (parseProbe_eq c w st img)
  case query => exact parseQuery_safe c w st img hc
  case large => exact parseQueryLargeTlv_safe c g w st img

end LLTD
