/- The allocation ledger: every handler releases what it allocated unless the block became part of the
   retained per-interface state (observation nodes, cached icon). -/
import LLTD.Lemmas.Inv

namespace LLTD

/-- same ledger (live blocks and bytes); fault schedule counters may differ -/
def World.same (w w' : World) : Prop := w'.live = w.live ∧ w'.bytes = w.bytes

theorem World.same.refl (w : World) : w.same w := ⟨rfl, rfl⟩
theorem World.same.trans {a b c : World} (h1 : a.same b) (h2 : b.same c) : a.same c := ⟨h2.1.trans h1.1, h2.2.trans h1.2⟩

theorem malloc_fail (w : World) (n : Nat) (h : (w.malloc n).2 = false) : w.same (w.malloc n).1 := by
  rw [malloc_fst, if_neg (by rw [h]; exact Bool.false_ne_true)]; exact ⟨rfl, rfl⟩

theorem malloc_ok (w : World) (n : Nat) (h : (w.malloc n).2 = true) :
    (w.malloc n).1.live = w.live + 1 ∧ (w.malloc n).1.bytes = w.bytes + n := by
  rw [malloc_fst, if_pos h]; exact ⟨rfl, rfl⟩

theorem send_same (w : World) : w.same w.send.1 := ⟨rfl, rfl⟩

theorem free_live (w : World) (n : Nat) : (w.free n).live = w.live - 1 ∧ (w.free n).bytes = w.bytes - n := ⟨rfl, rfl⟩

theorem malloc_then_free (w w' : World) (n : Nat) (h : (w.malloc n).2 = true) (hs : (w.malloc n).1.same w') :
    w.same (w'.free n) := by
  have := malloc_ok w n h
  constructor
  · rw [(free_live w' n).1, hs.1, this.1]; omega
  · rw [(free_live w' n).2, hs.2, this.2]; omega

theorem sendProbeMsg_same (c : Cfg) (st : St) (w : World) (fx : List Fx) (src dst : Mac) (pause ty : Nat) (ack : Bool) :
    w.same (sendProbeMsg c st w fx src dst pause ty ack).1 :=
  sendProbeMsg_cases (P := fun r => w.same r.1) c st w fx src dst pause ty ack (malloc_fail w _)
    (fun hm _ => malloc_then_free w _ _ hm (send_same _))
    (fun hm _ _ => malloc_then_free w _ _ hm ((send_same _).trans (send_same _)))

theorem parseEmit_same (c : Cfg) (w : World) (st : St) (img : List Nat) : w.same (parseEmit c w st img).w :=
  parseEmit_cases (P := fun o => w.same o.w) c w st img (fun _ => .refl w) (fun _ _ => .refl w)
    (fun _ _ n _ => emitLoop_ind (Q := fun w' _ => w.same w') c _ img n
      (fun _ h => h.trans (sendProbeMsg_same ..)) n 0 w [] (.refl w))

theorem answerHello_same (c : Cfg) (g : Glob) (w : World) (st : St) (img : List Nat) (hc : CfgOk c) (hl : 36 ≤ img.length) :
    w.same (answerHello c g w st img).w :=
  answerHello_cases (P := fun o => w.same o.w) c g w st img (malloc_fail w _)
    (fun _ h => absurd h (helloFrame_fits c g _ _ img hc hl)) (fun hm _ => malloc_then_free w _ _ hm (send_same _))

def iconBlocks (st : St) : Nat := match st.icon with | some _ => 1 | none => 0
def iconBytes (st : St) : Nat := match st.icon with | some ic => ic.length | none => 0

/-- blocks / bytes the per-interface record retains between frames (besides the record itself) -/
def retained (st : St) : Nat := st.sees.length + iconBlocks st
def retainedBytes (st : St) : Nat := X.nodeBytes * st.sees.length + iconBytes st

/-- the ledger accounts for exactly `base` blocks / `baseB` bytes besides what `st` retains -/
def Accounted (w : World) (st : St) (base baseB : Nat) : Prop :=
  w.live = base + retained st ∧ w.bytes = baseB + retainedBytes st

theorem Accounted.same {w w' : World} {st : St} {b bb : Nat} (h : Accounted w st b bb) (hs : w.same w') : Accounted w' st b bb :=
  ⟨hs.1.trans h.1, hs.2.trans h.2⟩

theorem Accounted.ret {w : World} {a b' : St} {b bb : Nat} (h : Accounted w a b bb) (hs : a.sameRet b') : Accounted w b' b bb := by
  unfold Accounted retained retainedBytes iconBlocks iconBytes at *
  rw [hs.1, hs.2]; exact h

theorem freeNodes_eq (w : World) (k : Nat) : freeNodes w k = { w with live := w.live - k, bytes := w.bytes - X.nodeBytes * k } := by
  induction k generalizing w with
  | zero => rfl
  | succ k ih => rw [freeNodes, ih, Nat.mul_succ]; simp only [World.free, Nat.sub_sub, Nat.add_comm]

theorem Accounted.node {w w' : World} {st : St} {b bb : Nat} (h : Accounted w st b bb) (o : Obs) (cnt : Nat)
    (hl : w'.live = w.live + 1) (hb : w'.bytes = w.bytes + X.nodeBytes) :
    Accounted w' { st with sees := o :: st.sees, count := cnt } b bb := by
  simp only [Accounted, retained, retainedBytes, iconBlocks, iconBytes, List.length_cons, Nat.mul_succ, hl, hb] at h ⊢
  omega

theorem Accounted.drop {w : World} {st : St} {b bb : Nat} (h : Accounted w st b bb) (k cnt : Nat) (hk : k ≤ st.sees.length) :
    Accounted (freeNodes w k) { st with sees := st.sees.drop k, count := cnt } b bb := by
  have := Nat.mul_le_mul_left X.nodeBytes hk
  simp only [Accounted, retained, retainedBytes, iconBlocks, iconBytes, freeNodes_eq, List.length_drop, Nat.mul_sub] at h ⊢
  omega

theorem Accounted.icon {w : World} {st : St} {b bb : Nat} (h : Accounted w st b bb) (d : List Nat) (hn : st.icon = none) :
    Accounted (w.rawAlloc d.length) { st with icon := some d } b bb := by
  simp only [Accounted, retained, retainedBytes, iconBlocks, iconBytes, World.rawAlloc, hn] at h ⊢
  omega

theorem parseProbe_ledger (c : Cfg) (w : World) (st : St) (img : List Nat) (b bb : Nat) (h : Accounted w st b bb) :
    Accounted (parseProbe c w st img).w (parseProbe c w st img).st b bb :=
  parseProbe_cases (P := fun o => Accounted o.w o.st b bb) c w st img (fun _ => h)
    (fun _ _ hm => h.same (malloc_fail w _ hm))
    (fun _ _ hm _ => h.same (malloc_then_free w _ _ hm (.refl _)))
    (fun _ _ hm _ => h.node _ _ (malloc_ok w _ hm).1 (malloc_ok w _ hm).2)

theorem parseQuery_ledger (c : Cfg) (w : World) (st : St) (img : List Nat) (b bb : Nat) (hc : CfgOk c) (h : Accounted w st b bb) :
    Accounted (parseQuery c w st img).w (parseQuery c w st img).st b bb := by
  have hq : Accounted w (querySt st img) b bb := h.ret ⟨rfl, rfl⟩
  refine parseQuery_cases (P := fun o => Accounted o.w o.st b bb) c w st img (fun hm => hq.same (malloc_fail w _ hm))
    (fun _ ht => absurd ht (queryHeader_fits c hc)) (fun hm _ num r _ hr => ?_)
  exact (hq.same (malloc_then_free w _ _ hm (send_same _))).drop r.2 _ (by rw [hr]; exact (queryLoop_count _ _ _ _).1)

theorem World.same.release {a b : World} (h : a.same b) (rel : Option Nat) : (release a rel).same (release b rel) := by
  cases rel with
  | none => exact h
  | some n => exact ⟨congrArg (· - 1) h.1, congrArg (· - n) h.2⟩

/-- the response itself leaves the ledger alone: afterwards only what was fetched to stay is still held -/
theorem respond_same (c : Cfg) (img : List Nat) (off : Nat) (f : Fetched) : (release f.w f.rel).same (respond c img off f).w :=
  respond_cases (P := fun o => (release f.w f.rel).same o.w) c img off f
    (fun hm => (malloc_fail f.w _ hm).release f.rel)
    (fun hm => (malloc_then_free f.w _ _ hm (send_same _)).release f.rel)

/-- once the block that lives for one response is released again, the ledger accounts for the record after the fetch: a freshly
    cached icon is one retained block more, friendly name and hardware id leave no trace -/
theorem largeFetch_ledger (g : Glob) (w : World) (st : St) (ty b bb : Nat) (h : Accounted w st b bb) :
    Accounted (release (largeFetch g w st ty).w (largeFetch g w st ty).rel) (largeFetch g w st ty).st b bb :=
  largeFetch_cases (P := fun f => Accounted (release f.w f.rel) f.st b bb) g w st ty (fun _ _ _ => h) (fun d _ hn _ => h.icon d hn)
    (fun _ _ _ => h)
    (fun d _ _ _ => h.same ⟨by simp [release, World.free, World.rawAlloc], by simp [release, World.free, World.rawAlloc]⟩)
    (fun _ _ => h) (fun _ hm => h.same (malloc_then_free w _ _ hm (.refl _)))
    (fun _ hm => h.same (malloc_fail w _ hm)) (fun _ _ _ => h)

theorem parseQueryLargeTlv_ledger (c : Cfg) (g : Glob) (w : World) (st : St) (img : List Nat) (b bb : Nat) (h : Accounted w st b bb) :
    Accounted (parseQueryLargeTlv c g w st img).w (parseQueryLargeTlv c g w st img).st b bb := by
  rw [parseQueryLargeTlv_st, parseQueryLargeTlv_eq]
  split
  · exact h
  · exact (largeFetch_ledger g w (cmdSt st img) _ b bb (h.ret (cmdSt_ret st img))).same (respond_same ..)

theorem reset_ledger (w : World) (st : St) (b bb : Nat) (h : Accounted w st b bb) :
    Accounted (resetWorld w st) (resetSt st) b bb := by
  have := h.drop st.sees.length 0 (Nat.le_refl _)
  simp only [Accounted, retained, retainedBytes, iconBlocks, iconBytes, resetWorld, resetSt, List.drop_length, List.length_nil] at this ⊢
  cases hic : st.icon <;> simp only [hic, World.free] at this ⊢ <;> omega

/-- THE LEDGER THEOREM: after any frame the ledger holds, besides what it held for others, exactly what the
    per-interface record retains — under every fault schedule -/
theorem parseFrameSt_ledger (c : Cfg) (g : Glob) (w : World) (st : St) (img : List Nat) (b bb : Nat) (hc : CfgOk c)
    (hl : 36 ≤ img.length) (h : Accounted w st b bb) :
    Accounted (parseFrameSt c g w st img).w (parseFrameSt c g w st img).st b bb := by
  have hhello : Accounted (answerHello c g w (preStep st img) img).w (answerHello c g w (preStep st img) img).st b bb :=
    ((h.ret (preStep_ret st img)).same (answerHello_same c g w _ img hc hl)).ret (answerHello_ret c g w _ img)
  rw [parseFrameSt_req]
  cases reqOf img <;> simp only [reactTo]
  case discover =>
    split
    · exact hhello
    · exact h
  case emit => exact (h.same (parseEmit_same c w st img)).ret (parseEmit_ret c w st img)
  case probe => exact parseProbe_ledger c w st img b bb h
  case query => exact parseQuery_ledger c w st img b bb hc h
  case large => exact parseQueryLargeTlv_ledger c g w st img b bb h
  case reset0 => exact reset_ledger w st b bb h
  case reset1 => exact h.ret ⟨rfl, rfl⟩
  case other => exact h

end LLTD
