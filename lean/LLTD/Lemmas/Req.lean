import LLTD.Lemmas.Handlers

namespace LLTD

/-- What a received frame asks of the responder: the classification by (type of service, opcode) that both the dispatcher of
    lltdBlock.c (`parseFrame`'s two nested switches) and the specification (`Spec.specStep`) make.  `reset0` / `reset1`: a
    Reset of the topology / quick discovery service; `other`: every pair without a handler. -/
inductive Req | discover | emit | probe | query | large | reset0 | reset1 | other
deriving DecidableEq

/-- the two nested switches of `parseFrame`, over the type of service and the opcode at their documented values (the
    specification's literals; the model's constants are tied to them in `Lemmas/XVals`) -/
def Req.of (t o : Nat) : Req :=
  if t = 0 then
    if o = 0 then .discover else if o = 2 then .emit else if o = 3 ∨ o = 4 then .probe
    else if o = 6 then .query else if o = 11 then .large else if o = 8 then .reset0 else .other
  else if t = 1 then
    if o = 0 then .discover else if o = 11 then .large else if o = 8 then .reset1 else .other
  else .other

def reqOf (img : List Nat) : Req := Req.of (fTos img) (fOpcode img)

/-- the (type of service, opcode) pairs a request kind stands for -/
def Req.Is : Req → Nat → Nat → Prop
  | .discover, t, o => (t = 0 ∨ t = 1) ∧ o = 0
  | .emit, t, o => t = 0 ∧ o = 2
  | .probe, t, o => t = 0 ∧ (o = 3 ∨ o = 4)
  | .query, t, o => t = 0 ∧ o = 6
  | .large, t, o => (t = 0 ∨ t = 1) ∧ o = 11
  | .reset0, t, o => t = 0 ∧ o = 8
  | .reset1, t, o => t = 1 ∧ o = 8
  | .other, _, _ => True

theorem Req.of_is (t o : Nat) : (Req.of t o).Is t o := by
  have br {p : Prop} [Decidable p] {x y : Req} (yes : p → x.Is t o) (no : ¬ p → y.Is t o) : (if p then x else y).Is t o :=
    ite_cases (P := fun r : Req => r.Is t o) yes no
  unfold Req.of
  exact br
    (fun t0 => br (fun o0 => ⟨.inl t0, o0⟩) fun _ => br (fun o2 => ⟨t0, o2⟩) fun _ => br (fun o3 => ⟨t0, o3⟩) fun _ =>
      br (fun o6 => ⟨t0, o6⟩) fun _ => br (fun o11 => ⟨.inl t0, o11⟩) fun _ => br (fun o8 => ⟨t0, o8⟩) fun _ => trivial)
    fun _ => br (fun t1 => br (fun o0 => ⟨.inr t1, o0⟩) fun _ => br (fun o11 => ⟨.inr t1, o11⟩) fun _ => br (fun o8 => ⟨t1, o8⟩) fun _ => trivial)
      fun _ => trivial

theorem reqOf_is {img : List Nat} {r : Req} (h : reqOf img = r) : r.Is (fTos img) (fOpcode img) :=
  h ▸ Req.of_is _ _

theorem reqOf_discover (img : List Nat) : reqOf img = .discover ↔ (fTos img = 0 ∨ fTos img = 1) ∧ fOpcode img = 0 :=
  ⟨reqOf_is, by unfold reqOf; rintro ⟨h | h, o⟩ <;> rw [h, o] <;> rfl⟩

theorem reqOf_emit (img : List Nat) : reqOf img = .emit ↔ fTos img = 0 ∧ fOpcode img = 2 :=
  ⟨reqOf_is, by unfold reqOf; rintro ⟨t, o⟩; rw [t, o]; rfl⟩

theorem reqOf_probe (img : List Nat) : reqOf img = .probe ↔ fTos img = 0 ∧ (fOpcode img = 3 ∨ fOpcode img = 4) :=
  ⟨reqOf_is, by unfold reqOf; rintro ⟨t, o | o⟩ <;> rw [t, o] <;> rfl⟩

theorem reqOf_query (img : List Nat) : reqOf img = .query ↔ fTos img = 0 ∧ fOpcode img = 6 :=
  ⟨reqOf_is, by unfold reqOf; rintro ⟨t, o⟩; rw [t, o]; rfl⟩

theorem reqOf_large (img : List Nat) : reqOf img = .large ↔ (fTos img = 0 ∨ fTos img = 1) ∧ fOpcode img = 11 :=
  ⟨reqOf_is, by unfold reqOf; rintro ⟨h | h, o⟩ <;> rw [h, o] <;> rfl⟩

theorem reqOf_reset0 (img : List Nat) : reqOf img = .reset0 ↔ fTos img = 0 ∧ fOpcode img = 8 :=
  ⟨reqOf_is, by unfold reqOf; rintro ⟨t, o⟩; rw [t, o]; rfl⟩

theorem reqOf_reset1 (img : List Nat) : reqOf img = .reset1 ↔ fTos img = 1 ∧ fOpcode img = 8 :=
  ⟨reqOf_is, by unfold reqOf; rintro ⟨t, o⟩; rw [t, o]; rfl⟩

theorem reqOf_foreign (img : List Nat) (h : 2 ≤ fTos img) : reqOf img = .other := by
  unfold reqOf Req.of; rw [if_neg (by omega), if_neg (by omega)]

end LLTD
