/-
  `derive_session_event` of lltdAutomata.c as translated by tools/c2lean_wire.py (the frame is a region of bytes read through casts
  to the packed header structs) returns the event code of the model (`Model/Event.lean`: `deriveCode`), which C11's theorems are
  about: for every frame image of bytes, every session table and every own address, and whatever lies behind the announced length.
  `session_table_find` is an oracle of the translation; the theorems assume it answers as `findOracle tbl` (trusted: nothing here
  ties `findOracle` to the translated `session_table_find` of TranslatedEq.lean).
-/
import LLTD.Lemmas.TranslatedMapperEq
import LLTD.Lemmas.Event
import LLTD.Lemmas.Loop

namespace LLTD.TEvEq
open LLTD LLTD.CSem LLTD.TWEq

/- `mac_equal` (lltdAutomata.c) and `compareEthernetAddress` (lltdWire.c) compare the same six bytes with the same expression, so their
   translations agree by unfolding; an edit to only one of them makes this `rfl` fail. -/
theorem mac_equal_ret (env : TW.Env) (a b : List Nat) : (TW.mac_equal env a b).ret = (TW.compareEthernetAddress env a b).ret := rfl

theorem mac_equal_eq (env : TW.Env) (a b : List Nat) (ha : 6 ≤ a.length) (hb : 6 ≤ b.length) :
    (TW.mac_equal env a b).ret = (a.take 6 == b.take 6) := by
  rw [mac_equal_ret]; exact TMapEq.compare_eq env a b ha hb

theorem slice_eq_rd (l : List Nat) (off n : Nat) : slice l off n = rd l off n := rfl

/-- a 16-bit field of the frame read through the packed struct and passed through `lltd_ntohs` is the big-endian value -/
theorem ntohs_rd (env : TW.Env) (img : List Nat) (off : Nat) (hb : isBytes img) (hl : off + 2 ≤ img.length) :
    (TW.lltd_ntohs env (unle (rd img off 2))).ret = unbe (slice img off 2) := by
  show (TW.lltd_htons env (unle (slice img off 2))).ret = _
  match slice img off 2, slice_length img off 2 hl, slice_isBytes img off 2 hb with
  | [x0, x1], _, hx =>
    have h0 : x0 < 256 := hx x0 (by simp)
    have h1 : x1 < 256 := hx x1 (by simp)
    rw [htons_val env _ (by simp only [unle]; omega)]
    simp only [unle, unbe, List.foldl]
    omega

theorem loop_brk (env : TW.Env) (n a : Nat) (s : TW.derive_session_event.S) (h : s.brk = true) :
    loopRange a (a + n) (TW.derive_session_event.loop1 env) s = s :=
  TEq.loopRange_inv (fun _ t => t = s) (a + n) _ n a s rfl rfl
    (fun i t _ _ ht => by subst ht; simp [TW.derive_session_event.loop1, h])

/-- one iteration: the comparison the C text makes is the model's comparison of the 6-byte slice; 36 = 32 bytes of Ethernet and
    base header + 4 of the Discover's fixed part (generation, station count), 6 = one station address -/
theorem loop1_step (env : TW.Env) (i : Nat) (s : TW.derive_session_event.S) (hb : s.brk = false) (hour : s.our_mac.length = 6)
    (hfit : 36 + i * 6 + 6 ≤ s.frame.length) :
    TW.derive_session_event.loop1 env i s =
      if slice s.frame (36 + i * 6) 6 == s.our_mac then { s with acking := true, brk := true } else s := by
  have hm : (TW.mac_equal env (List.drop ((((0 + 1 * 32) + 4) + i * 6) + 0) s.frame) (List.drop 0 s.our_mac)).ret
      = (slice s.frame (36 + i * 6) 6 == s.our_mac) := by
    have e36 : (((0 + 1 * 32) + 4) + i * 6) + 0 = 36 + i * 6 := by omega
    rw [e36, mac_equal_eq env (List.drop (36 + i * 6) s.frame) (List.drop 0 s.our_mac) (by rw [List.length_drop]; omega)
      (Nat.le_of_eq hour.symm)]
    exact congrArg _ (List.take_of_length_le (Nat.le_of_eq hour))
  simp only [TW.derive_session_event.loop1, hb, Bool.false_eq_true, hm, ↓reduceIte]
  split <;> rfl

theorem loop_scan (env : TW.Env) (n a : Nat) (s : TW.derive_session_event.S) (hb : s.brk = false) (hour : s.our_mac.length = 6)
    (hfit : 36 + (a + n) * 6 ≤ s.frame.length) :
    loopRange a (a + n) (TW.derive_session_event.loop1 env) s =
      if (stationScan s.frame 36 6 s.our_mac n a).1 then { s with acking := true, brk := true } else s := by
  induction n generalizing a with
  | zero => simp [stationScan, loopRange_empty]
  | succ n ih =>
    rw [loopRange_succ _ _ _ _ (by omega), loop1_step env a s hb hour (by omega)]
    have e : a + (n + 1) = (a + 1) + n := by omega
    by_cases hc : (slice s.frame (36 + a * 6) 6 == s.our_mac) = true
    · simp only [hc, stationScan, ↓reduceIte]
      rw [e, loop_brk env n (a + 1) _ rfl]
    · simp only [hc, Bool.false_eq_true, stationScan, ↓reduceIte]
      rw [e, ih (a + 1) (by omega)]

theorem loop_scan0 (env : TW.Env) (n : Nat) (s : TW.derive_session_event.S) (hb : s.brk = false) (hour : s.our_mac.length = 6)
    (hfit : 36 + n * 6 ≤ s.frame.length) :
    loopRange 0 n (TW.derive_session_event.loop1 env) s =
      if (stationScan s.frame 36 6 s.our_mac n 0).1 then { s with acking := true, brk := true } else s := by
  have := loop_scan env n 0 s hb hour (by omega)
  simpa using this

/-- `loop_scan` as an unconditional equation (to be used with `rw`): the guard is what `loop_scan` assumes -/
theorem loop_scan_guard (env : TW.Env) (n : Nat) (s : TW.derive_session_event.S) :
    loopRange 0 n (TW.derive_session_event.loop1 env) s =
      if s.brk = false ∧ s.our_mac.length = 6 ∧ 36 + n * 6 ≤ s.frame.length then
        (if (stationScan s.frame 36 6 s.our_mac n 0).1 then { s with acking := true, brk := true } else s)
      else loopRange 0 n (TW.derive_session_event.loop1 env) s := by
  split
  · rename_i h
    exact loop_scan0 env n s h.1 h.2.1 h.2.2
  · rfl

/-- the object representation of a session entry as far as `derive_session_event` reads it (address at 0, generation at 6,
    sequence number at 8; the remaining 22 bytes are not read and left out of the model) -/
def entryBytes (e : Entry) : List Nat := e.mac ++ (le 2 e.gen ++ (le 2 e.seq ++ List.replicate 22 0))

/-- `session_table_find` as the model has it: the first valid slot with this (address, generation) -/
def findOracle (tbl : Option Table) : List Nat → Nat → Nat → Option (List Nat) :=
  fun m g _ => (existingOf tbl (m.take 6) g).map entryBytes

theorem bcast_bytes : ((le 1 255) ++ (le 1 255) ++ (le 1 255) ++ (le 1 255) ++ (le 1 255) ++ (le 1 255)) = bcast := by decide

/-- what the oracle is assumed to hand back: the model's table holds 6-byte addresses and 16-bit sequence numbers -/
def TableWf (tbl : Option Table) : Prop := ∀ t, tbl = some t → ∀ e ∈ t.entries, e.mac.length = 6 ∧ e.seq < 65536

theorem existing_facts (tbl : Option Table) (mac : Mac) (gen : Nat) (e : Entry) (hwf : TableWf tbl)
    (hex : existingOf tbl mac gen = some e) : e.mac = mac ∧ e.mac.length = 6 ∧ e.seq < 65536 := by
  cases tbl with
  | none => simp [existingOf] at hex
  | some t =>
    simp only [existingOf] at hex
    have hp := List.find?_some hex
    have hm := List.mem_of_find?_eq_some hex
    have hw := hwf t rfl e hm
    simp only [Entry.matches, Bool.and_eq_true, beq_iff_eq] at hp
    exact ⟨hp.1.2, hw.1, hw.2⟩

/-- what the C text reads of the entry the lookup returned for the real source `src` of the frame -/
theorem entry_reads (env : TW.Env) (src : List Nat) (e : Entry) (h6 : e.mac.length = 6) (hs : e.seq < 65536)
    (hd : 6 ≤ src.length) (hsrc : src.take 6 = e.mac) :
    unle (rd (entryBytes e) 8 2) = e.seq ∧ (TW.mac_equal env (entryBytes e) src).ret = true := by
  constructor
  · have : rd (entryBytes e) 8 2 = le 2 e.seq :=
      (slice_append_add e.mac _ 8 2 2 (by rw [h6])).trans ((slice_append_add (le 2 e.gen) _ 2 0 2 (by rw [le_length])).trans
        (slice_prefix (le 2 e.seq) _ 2 (le_length 2 _).symm))
    rw [this, unle_le 2 e.seq hs]
  · rw [mac_equal_eq env (entryBytes e) src (by rw [entryBytes, List.length_append, h6]; omega) hd, hsrc, entryBytes,
      List.take_left' h6]
    exact beq_self_eq_true _

/- Bytes behind the announced length do not matter: the over-read clause of C01 for this function, as non-interference. -/

theorem rd_app (img t : List Nat) (off n : Nat) (h : off + n ≤ img.length) : rd (img ++ t) off n = rd img off n :=
  slice_append_left img t off n h

theorem ntohs_rd_app (env : TW.Env) (img t : List Nat) (off : Nat) (hb : isBytes img) (hl : off + 2 ≤ img.length) :
    (TW.lltd_ntohs env (unle (rd (img ++ t) off 2))).ret = unbe (slice img off 2) := by
  rw [rd_app img t off 2 hl]; exact ntohs_rd env img off hb hl

theorem stationScan_app (img t our : List Nat) (n a : Nat) (h : 36 + (a + n) * 6 ≤ img.length) :
    stationScan (img ++ t) 36 6 our n a = stationScan img 36 6 our n a := by
  induction n generalizing a with
  | zero => rfl
  | succ n ih =>
    have hs : slice (img ++ t) (36 + a * 6) 6 = slice img (36 + a * 6) 6 := rd_app img t _ 6 (by omega)
    simp only [stationScan, hs]
    split
    · rfl
    · exact ih (a + 1) (by omega)

theorem opcode_read (img t : List Nat) (h : 18 ≤ img.length) : unle (rd (img ++ t) (0 + 17) 1) = fOpcode img := by
  rw [Nat.zero_add, rd_app img t 17 1 (by omega), unle_rd1 img 17 (by omega), fOpcode_eq]

/-- everything but a Discover: too short, Reset (topology-wide or not), Hello, any other opcode -/
theorem derive_tail_other (env : TW.Env) (img t : List Nat) (tbl : Option Table) (our : Mac)
    (hnd : ¬ (32 ≤ img.length ∧ fOpcode img = X.opDiscover)) :
    (TW.derive_session_event env (img ++ t) img.length [] our).ret = deriveCode img tbl (some our) := by
  by_cases hlen : img.length < 32
  · simp [TW.derive_session_event, deriveCode, hlen]
  · have h32 : 32 ≤ img.length := Nat.le_of_not_lt hlen
    have hle : ∀ k, k ≤ 32 → k ≤ img.length := fun k hk => Nat.le_trans hk h32
    have hop := opcode_read img t (hle 18 (by decide))
    have hne : fOpcode img ≠ 0 := fun h => hnd ⟨h32, by simpa using h⟩
    -- the comparison with the broadcast address reads the real destination
    have hm : (TW.mac_equal env (List.drop 18 (img ++ t)) [255, 255, 255, 255, 255, 255]).ret = (fRealDst img == bcast) := by
      rw [mac_equal_eq env _ _ (by rw [List.length_drop, List.length_append]
                                   exact Nat.le_sub_of_add_le (Nat.le_trans (hle 24 (by decide)) (Nat.le_add_right _ _))) (by decide),
        fRealDst_eq]
      exact congrArg (· == bcast) (rd_app img t 18 6 (hle 24 (by decide)))
    by_cases h8 : fOpcode img = 8
    · by_cases hbc : (fRealDst img == bcast) = true <;>
        simp [TW.derive_session_event, deriveCode, hlen, hop, h8, hm, hbc]
    · by_cases h1 : fOpcode img = 1
      · simp [TW.derive_session_event, deriveCode, hlen, hop, h1]
      · have h8i : ¬ ((fOpcode img : Int) = 8) := fun h => h8 (Int.ofNat_inj.mp h)
        have h1i : ¬ ((fOpcode img : Int) = 1) := fun h => h1 (Int.ofNat_inj.mp h)
        simp [TW.derive_session_event, deriveCode, hlen, hop, h1, h8, hne, h8i, h1i]

theorem derive_tail_discover_short (env : TW.Env) (img t : List Nat) (tbl : Option Table) (our : Mac)
    (h32 : 32 ≤ img.length) (h0 : fOpcode img = X.opDiscover) (h36 : img.length < 36) :
    (TW.derive_session_event env (img ++ t) img.length [] our).ret = deriveCode img tbl (some our) := by
  have hlen : ¬ img.length < 32 := by omega
  have hop := opcode_read img t (by omega)
  have h0' : fOpcode img = 0 := by simpa using h0
  simp [TW.derive_session_event, deriveCode, hlen, hop, h0', h36]

/-- a conditional between two states is the state of the conditionals: with `ite_self` this keeps the state one record whose fields
    are `if`s, so that no case split is needed to follow the C text through its `if (..) { x = ..; }` statements -/
theorem S.ite_mk (c : Prop) [Decidable c] (a0 b0 : List Nat) (a1 b1 : Nat) (a2 b2 a3 b3 a4 b4 a5 b5 : List Nat) (a6 b6 : Bool)
    (a7 b7 a8 b8 a9 b9 a10 b10 : Nat) (a11 b11 : Bool) (a12 b12 : Nat) (a13 b13 : Bool) (a14 b14 : Int) (a15 b15 a16 b16 : Bool) :
    (if c then (⟨a0, a1, a2, a3, a4, a5, a6, a7, a8, a9, a10, a11, a12, a13, a14, a15, a16⟩ : TW.derive_session_event.S)
      else ⟨b0, b1, b2, b3, b4, b5, b6, b7, b8, b9, b10, b11, b12, b13, b14, b15, b16⟩) =
    ⟨if c then a0 else b0, if c then a1 else b1, if c then a2 else b2, if c then a3 else b3, if c then a4 else b4,
      if c then a5 else b5, if c then a6 else b6, if c then a7 else b7, if c then a8 else b8, if c then a9 else b9,
      if c then a10 else b10, if c then a11 else b11, if c then a12 else b12, if c then a13 else b13, if c then a14 else b14,
      if c then a15 else b15, if c then a16 else b16⟩ := by
  split <;> rfl

/-- the Discover arm of the C text, followed once, over variables: `gen`, `xid`, `cnt` are what the three header reads return, `m` the
    number of station addresses the frame has room for, `n` the clamped count, `o` what the lookup returns, `chg` the comparison of its
    sequence number; `hsame`: the entry returned carries the address it was looked up by, so the "conflicting" arm is not taken.
    The frame, the model's accessors and the table are put in at the last step (`derive_tail_discover`); carried through the forty
    assignments of the function they make the same `simp` much dearer. -/
theorem derive_discover_form (env : TW.Env) (frame : List Nat) (len : Nat) (our : Mac) (gen xid cnt m n : Nat) (o : Option (List Nat))
    (chg : Bool) (h32 : ¬ len < 32) (h36 : ¬ len < 36) (hop : unle (rd frame (0 + 17) 1) = 0)
    (hgen : (TW.lltd_ntohs env (unle (rd frame 32 2))).ret = gen) (hxid : (TW.lltd_ntohs env (unle (rd frame 30 2))).ret = xid)
    (hcnt : (TW.lltd_ntohs env (unle (rd frame 34 2))).ret = cnt)
    (hmax : (len + 18446744073709551616 - 36) % 18446744073709551616 / 6 = m) (hclamp : (if cnt > m then m % 65536 else cnt) = n)
    (hour : our.length = 6) (hfit : 36 + n * 6 ≤ frame.length)
    (hfind : env.session_table_find (List.drop 24 frame) gen xid = o)
    (hsame : (o.isSome && !(TW.mac_equal env (List.drop 0 (o.getD [])) (List.drop 24 frame)).ret) = false)
    (hchg : (o.isSome && ((unle (rd (o.getD []) 8 2) : Nat) : Int) != ((xid : Nat) : Int)) = chg) :
    (TW.derive_session_event env frame len [] our).ret =
      if cnt = 0 ∨ (stationScan frame 36 6 our n 0).1 = true then (if chg = true then 5 else 3) else (if chg = true then 4 else 2) := by
  simp only [TW.derive_session_event, S.ite_mk, ite_self, ↓reduceIte, h32, h36, hop, hgen, hxid, hcnt, hmax, hclamp, hfind, hsame, hchg,
    loop_scan0, hour, hfit, Nat.reduceAdd, Nat.reduceMul, Nat.reduceMod, Nat.reduceSub, decide_false, decide_eq_true_eq,
    Bool.not_true, Bool.false_eq_true, Bool.or_self, Bool.or_false, show ((1 : Int) != 0) = true from rfl,
    show ((0 : Int) != 0) = false from rfl, show (((0 : Nat) : Int) == 8) = false from rfl,
    show (((0 : Nat) : Int) == 1) = false from rfl, show (((0 : Nat) : Int) == 0) = true from rfl,
    show ((cnt : Int) == 0) = decide (cnt = 0) from int_beq cnt 0]
  -- what is left is the event as a nested `if` over the three decisions
  by_cases hz : cnt = 0 <;> cases (stationScan frame 36 6 our n 0).1 <;> cases chg <;> simp [hz]

/-- a Discover that holds its fixed header: no stations announced, or the list scanned as far as the frame reaches -/
theorem derive_tail_discover (env : TW.Env) (img t : List Nat) (tbl : Option Table) (our : Mac)
    (hb : isBytes img) (hl : img.length < 18446744073709551616) (hour : our.length = 6)
    (horacle : env.session_table_find = findOracle tbl) (hwf : TableWf tbl)
    (h0 : fOpcode img = X.opDiscover) (h36 : 36 ≤ img.length) :
    (TW.derive_session_event env (img ++ t) img.length [] our).ret = deriveCode img tbl (some our) := by
  have hle : ∀ k, k ≤ 36 → k ≤ img.length := fun k hk => Nat.le_trans hk h36
  have hlen : ¬ img.length < 32 := Nat.not_lt.mpr (hle 32 (by decide))
  have hlen36 : ¬ img.length < 36 := Nat.not_lt.mpr h36
  have hsrc : List.take 6 (List.drop 24 (img ++ t)) = fRealSrc img :=
    (rd_app img t 24 6 (hle 30 (by decide))).trans (fRealSrc_eq img).symm
  have hfits := stationCount_fits img h36
  -- `frame_len - fixed_len` in `size_t`
  have hmax : (img.length + 18446744073709551616 - 36) % 18446744073709551616 / 6 = (img.length - 36) / 6 := by
    rw [Nat.sub_add_comm h36, Nat.add_mod_right, Nat.mod_eq_of_lt (Nat.lt_of_le_of_lt (Nat.sub_le _ _) hl)]
  -- `% 65536` is the `(uint16_t)` narrowing of the clamped count, harmless since the announced count is a 16-bit field
  have hclamp : (if unbe (slice img 34 2) > (img.length - 36) / 6 then (img.length - 36) / 6 % 65536 else unbe (slice img 34 2))
      = stationCount img := by
    rw [stationCount_min]
    by_cases h : unbe (slice img 34 2) > (img.length - 36) / 6
    · rw [if_pos h, Nat.mod_eq_of_lt (Nat.lt_trans h (unbe_slice_two_lt img 34 hb)), Nat.min_eq_right (Nat.le_of_lt h)]
    · rw [if_neg h, Nat.min_eq_left (Nat.le_of_not_lt h)]
  have key := fun o chg => derive_discover_form env (img ++ t) img.length our (fDiscGen img) (fSeq img) (unbe (slice img 34 2))
    ((img.length - 36) / 6) (stationCount img) o chg hlen hlen36 ((opcode_read img t (hle 18 (by decide))).trans h0)
    ((ntohs_rd_app env img t 32 hb (hle 34 (by decide))).trans (fDiscGen_eq img).symm)
    ((ntohs_rd_app env img t 30 hb (hle 32 (by decide))).trans (fSeq_eq img).symm) (ntohs_rd_app env img t 34 hb h36)
    hmax hclamp hour (Nat.le_trans hfits (by rw [List.length_append]; exact Nat.le_add_right _ _))
  rw [stationScan_app img t our (stationCount img) 0 (by rw [Nat.zero_add]; exact hfits)] at key
  have hfind : env.session_table_find (List.drop 24 (img ++ t)) (fDiscGen img) (fSeq img) =
      (existingOf tbl (fRealSrc img) (fDiscGen img)).map entryBytes := by rw [horacle, findOracle, hsrc]
  have h0' : fOpcode img = 0 := h0
  simp only [deriveCode, discoverEvent, ackScan, X.sizeofDemux_val, X.offDiscList_val, X.offDiscCount_val, X.strideStation_val,
    X.opReset_val, X.opHello_val, X.opDiscover_val, Nat.reduceAdd, hlen, hlen36, h0', ↓reduceIte, Nat.reduceEqDiff]
  cases hex : existingOf tbl (fRealSrc img) (fDiscGen img) with
  | none =>
    rw [hex] at hfind
    rw [key none false hfind rfl rfl]
    by_cases hz : unbe (slice img 34 2) = 0 <;> simp [hz]
  | some e =>
    rw [hex] at hfind
    obtain ⟨hm, h6, hs⟩ := existing_facts tbl _ _ e hwf hex
    obtain ⟨hr1, hr2⟩ := entry_reads env (List.drop 24 (img ++ t)) e h6 hs
      (by rw [List.length_drop, List.length_append]
          exact Nat.le_sub_of_add_le (Nat.le_trans (hle 30 (by decide)) (Nat.le_add_right _ _)))
      (hsrc.trans hm.symm)
    rw [key (some (entryBytes e)) (e.seq != fSeq img) hfind (by rw [Option.getD_some, List.drop_zero, hr2]; rfl)
      (by rw [Option.isSome_some, Bool.true_and, Option.getD_some, hr1]; exact congrArg (!·) (int_beq e.seq (fSeq img)))]
    by_cases hz : unbe (slice img 34 2) = 0 <;> simp [hz]

/-- the frame region is `img ++ t`: the receive buffer holds anything at all behind the `frame_len = img.length` bytes the callee
    was told about, and the event is the model's for `img` -/
theorem derive_tail_eq (env : TW.Env) (img t : List Nat) (tbl : Option Table) (our : Mac)
    (hb : isBytes img) (hl : img.length < 18446744073709551616) (hour : our.length = 6)
    (horacle : env.session_table_find = findOracle tbl) (hwf : TableWf tbl) :
    (TW.derive_session_event env (img ++ t) img.length [] our).ret = deriveCode img tbl (some our) := by
  by_cases hd : 32 ≤ img.length ∧ fOpcode img = X.opDiscover
  · by_cases h36 : img.length < 36
    · exact derive_tail_discover_short env img t tbl our hd.1 hd.2 h36
    · exact derive_tail_discover env img t tbl our hb hl hour horacle hwf hd.2 (by omega)
  · exact derive_tail_other env img t tbl our hd

/-- non-interference: the frame bytes behind the length the callee was told have no influence on the event returned -/
theorem derive_tail_independent (env : TW.Env) (img t t' : List Nat) (tbl : Option Table) (our : Mac)
    (hb : isBytes img) (hl : img.length < 18446744073709551616) (hour : our.length = 6)
    (horacle : env.session_table_find = findOracle tbl) (hwf : TableWf tbl) :
    (TW.derive_session_event env (img ++ t) img.length [] our).ret = (TW.derive_session_event env (img ++ t') img.length [] our).ret := by
  rw [derive_tail_eq env img t tbl our hb hl hour horacle hwf, derive_tail_eq env img t' tbl our hb hl hour horacle hwf]

/-- the frame region is exactly the image: its length is what the callee is told -/
theorem derive_session_event_eq (env : TW.Env) (img : List Nat) (tbl : Option Table) (our : Mac)
    (hb : isBytes img) (hl : img.length < 18446744073709551616) (hour : our.length = 6)
    (horacle : env.session_table_find = findOracle tbl) (hwf : TableWf tbl) :
    (TW.derive_session_event env img img.length [] our).ret = deriveCode img tbl (some our) := by
  simpa using derive_tail_eq env img [] tbl our hb hl hour horacle hwf

theorem derive_other_eq (env : TW.Env) (img : List Nat) (tbl : Option Table) (our : Mac)
    (hnd : ¬ (32 ≤ img.length ∧ fOpcode img = X.opDiscover)) :
    (TW.derive_session_event env img img.length [] our).ret = deriveCode img tbl (some our) := by
  simpa using derive_tail_other env img [] tbl our hnd

theorem derive_discover_short (env : TW.Env) (img : List Nat) (tbl : Option Table) (our : Mac)
    (h32 : 32 ≤ img.length) (h0 : fOpcode img = X.opDiscover) (h36 : img.length < 36) :
    (TW.derive_session_event env img img.length [] our).ret = deriveCode img tbl (some our) := by
  simpa using derive_tail_discover_short env img [] tbl our h32 h0 h36

/-- a Discover with a non-empty station list: the list is scanned, as far as the frame reaches -/
theorem derive_discover_scan (env : TW.Env) (img : List Nat) (tbl : Option Table) (our : Mac)
    (hb : isBytes img) (hl : img.length < 18446744073709551616) (hour : our.length = 6)
    (horacle : env.session_table_find = findOracle tbl) (hwf : TableWf tbl)
    (h0 : fOpcode img = X.opDiscover) (h36 : 36 ≤ img.length) (hz : unbe (slice img 34 2) ≠ 0) :
    (TW.derive_session_event env img img.length [] our).ret = deriveCode img tbl (some our) :=
  derive_session_event_eq env img tbl our hb hl hour horacle hwf

end LLTD.TEvEq
