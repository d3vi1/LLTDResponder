/- The handlers on a valid attribute record (`answerHello_ok`, `parseQuery_ok`: whole-`Out` equations; the MTU bounds they rest
   on), the Discover pre-step in closed form (`preStep`), the dispatcher by request kind (`reactTo`, `parseFrameSt_req`) and the
   outcomes of `parseFrame`. -/
import LLTD.Lemmas.Hello
import LLTD.Lemmas.XVals
import LLTD.Lemmas.Handlers
import LLTD.Lemmas.Req

namespace LLTD

theorem mtuEff_ge (c : Cfg) (hc : CfgOk c) : 576 ≤ c.mtuEff := by
  unfold Cfg.mtuEff
  split
  · omega
  · exact hc.mtuLo

theorem mtuEff_le (c : Cfg) (hc : CfgOk c) : c.mtuEff ≤ 9216 := by
  unfold Cfg.mtuEff
  split
  · omega
  · exact hc.mtuHi

theorem mtuEff_eq (c : Cfg) (hc : CfgOk c) (hm : c.failMtu = false) : c.mtuEff = c.mtu := by
  have := hc.mtuLo
  unfold Cfg.mtuEff; simp [hm]; omega

theorem queryMaxDescs_eq (c : Cfg) (hc : CfgOk c) (hm : c.failMtu = false) : queryMaxDescs c.mtuEff = (c.mtu - 34) / 20 := by
  have := hc.mtuLo
  rw [mtuEff_eq c hc hm, queryMaxDescs, X.sizeofDemux_val, X.sizeofQryRespHdr_val, if_pos (by omega)]

theorem largePayload_eq (c : Cfg) (hc : CfgOk c) (hm : c.failMtu = false) : largePayload c = c.mtu - 34 := by
  have hlo := hc.mtuLo
  have hhi := hc.mtuHi
  rw [largePayload, mtuEff_eq c hc hm, X.sizeofDemux_val, X.sizeofQltlvResp_val, if_pos (by omega),
    Nat.mod_eq_of_lt (by unfold u16; omega)]

theorem seesFull_eq (n : Nat) : seesFull n = decide (1024 ≤ n) := by simp [seesFull, X.seesCap_val]

theorem mapperMatches_iff (st : St) (r : Mac) : mapperMatches st r = true ↔ st.known = false ∨ st.mapperReal = r := by
  cases h : st.known <;> simp [mapperMatches, h]

theorem mapperMatches_setActive (st : St) (r e : Mac) (h : mapperMatches st r = true) :
    mapperMatches (setActiveMapper st r e) r = true := by
  unfold setActiveMapper
  split
  · exact h
  · simp [mapperMatches]

theorem setActive_known (st : St) (r e : Mac) : (setActiveMapper st r e).known = true := by
  unfold setActiveMapper; split <;> simp_all

theorem setActive_of_known {st : St} (r e : Mac) (h : st.known = true) : setActiveMapper st r e = st := by
  unfold setActiveMapper; rw [if_pos h]

theorem setActive_seq (st : St) (r e : Mac) : (setActiveMapper st r e).seq = st.seq := by unfold setActiveMapper; split <;> rfl

theorem helloFrame_fits (c : Cfg) (g : Glob) (gen tos : Nat) (img : List Nat) (hc : CfgOk c) (hl : 36 ≤ img.length) :
    ¬ (helloFrame c g gen tos (fRealSrc img) (fEthSrc img)).length > c.mtuEff := by
  rw [helloFrame_length c g _ _ _ _ hc (fAddr_length img hl).1 (fAddr_length img hl).2]
  have := helloTlvs_length_le c g hc
  have := mtuEff_ge c hc
  omega

theorem answerHello_ok (c : Cfg) (g : Glob) (w : World) (st : St) (img : List Nat) (hc : CfgOk c)
    (hl : 36 ≤ img.length) (hm : (w.malloc c.mtuEff).2 = true) :
    answerHello c g w st img =
      { st := helloSt st img, w := (w.malloc c.mtuEff).1.send.1.free c.mtuEff,
        fx := [Fx.send (w.malloc c.mtuEff).1.send.2 c.idx (helloFrame c g (helloGen st img) (fTos img) (fRealSrc img) (fEthSrc img))] } :=
  answerHello_cases (P := fun o => o = _) c g w st img (fun h => by rw [hm] at h; exact Bool.noConfusion h)
    (fun _ h => absurd h (helloFrame_fits c g _ _ img hc hl)) (fun _ _ => rfl)

theorem answerHello_fail (c : Cfg) (g : Glob) (w : World) (st : St) (img : List Nat) (hm : (w.malloc c.mtuEff).2 = false) :
    answerHello c g w st img = { st := st, w := (w.malloc c.mtuEff).1, fx := [] } :=
  have no {p : Prop} (h : (w.malloc c.mtuEff).2 = true) : p := by rw [hm] at h; exact Bool.noConfusion h
  answerHello_cases (P := fun o => o = _) c g w st img (fun _ => rfl) (fun h => no h) (fun h => no h)

theorem queryLoop_take (mtu : Nat) (sees : List Obs) :
    ∀ (rem off : Nat), off + 20 * (min rem sees.length) ≤ mtu →
      queryLoop mtu sees rem off = ((sees.take rem).flatMap obsWire, min rem sees.length) := by
  induction sees with
  | nil => intro rem off _; cases rem <;> simp [queryLoop]
  | cons o os ih =>
    intro rem off hfit
    cases rem with
    | zero => simp [queryLoop]
    | succ r =>
      simp only [queryLoop]
      have hmin : min (r + 1) (o :: os).length = min r os.length + 1 := by simp [Nat.succ_min_succ]
      rw [hmin] at hfit
      have hno : ¬ off + 20 > mtu := by omega
      rw [if_neg hno, ih r (off + 20) (by omega)]
      simp

theorem queryNum_eq (count mtu : Nat) (hm : mtu ≤ 9216) : queryNum count mtu = min count (queryMaxDescs mtu) := by
  unfold queryNum
  have hmax : queryMaxDescs mtu < u16 := by
    unfold queryMaxDescs u16
    simp only [X.sizeofDemux_val, X.sizeofQryRespHdr_val]
    split <;> omega
  split
  · next h => rw [Nat.mod_eq_of_lt hmax]; omega
  · next h => rw [Nat.mod_eq_of_lt (by omega)]; omega

theorem query_fits (mtu num : Nat) (h : num ≤ queryMaxDescs mtu) (hm : 34 < mtu) : 34 + 20 * num ≤ mtu := by
  unfold queryMaxDescs at h
  simp only [X.sizeofDemux_val, X.sizeofQryRespHdr_val, Nat.reduceAdd] at h
  rw [if_pos hm] at h
  have := Nat.div_mul_le_self (mtu - 34) 20
  omega

theorem queryHeader_fits (c : Cfg) (hc : CfgOk c) : ¬ X.sizeofDemux + X.sizeofQryRespHdr > c.mtuEff := by
  have := mtuEff_ge c hc
  simp only [X.sizeofDemux_val, X.sizeofQryRespHdr_val]; omega

theorem parseQuery_ok (c : Cfg) (w : World) (st : St) (img : List Nat) (hc : CfgOk c) (hi : st.count = st.sees.length)
    (hm : (w.malloc c.mtuEff).2 = true) :
    ∀ n, n = min st.sees.length (queryMaxDescs c.mtuEff) →
    parseQuery c w st img =
      { st := { querySt st img with sees := st.sees.drop n, count := if (st.sees.drop n).isEmpty then 0 else st.count - n },
        w := freeNodes ((w.malloc c.mtuEff).1.send.1.free c.mtuEff) n,
        fx := [Fx.send (w.malloc c.mtuEff).1.send.2 c.idx
                (queryFrame c img (fSeq img) n (decide (st.sees.length > n)) ((st.sees.take n).flatMap obsWire))] } := by
  intro n hn
  have hge := mtuEff_ge c hc
  have hnl : min n st.sees.length = n := by omega
  have hloop := queryLoop_take c.mtuEff st.sees n 34 (by rw [hnl]; exact query_fits c.mtuEff n (by omega) (by omega))
  rw [hnl] at hloop
  refine parseQuery_cases (P := fun o => o = _) c w st img (fun h => by rw [hm] at h; exact Bool.noConfusion h)
    (fun _ h => absurd h (queryHeader_fits c hc)) (fun _ _ num r hnum hr => ?_)
  rw [queryNum_eq _ _ (mtuEff_le c hc), hi, ← hn] at hnum
  rw [hnum, show X.sizeofDemux + X.sizeofQryRespHdr = 34 by decide, hloop] at hr
  rw [hr, hnum, hi]

theorem parseQuery_fail (c : Cfg) (w : World) (st : St) (img : List Nat) (hm : (w.malloc c.mtuEff).2 = false) :
    parseQuery c w st img = { st := querySt st img, w := (w.malloc c.mtuEff).1, fx := [] } :=
  have no {p : Prop} (h : (w.malloc c.mtuEff).2 = true) : p := by rw [hm] at h; exact Bool.noConfusion h
  parseQuery_cases (P := fun o => o = _) c w st img (fun _ => rfl) (fun h => no h) (fun h => no h)

theorem prestep_gen' (slot gen : Nat) :
    (if slot = 0 ∧ ¬gen = 0 then gen else if slot = gen then slot else gen) = gen := by
  split
  · rfl
  · split
    · next h => exact h
    · rfl

/-- the per-interface state after the Discover pre-step of parseFrame (accepted Discover) -/
def preStep (st : St) (img : List Nat) : St :=
  let s := setActiveMapper st (fRealSrc img) (fEthSrc img)
  if fTos img = 1 then { s with genQuick := fDiscGen img } else { s with genTopo := fDiscGen img }

/-- every arm of the C `if / else if` stores the Discover's generation (`prestep_gen'`) -/
theorem preStepRaw_eq (st : St) (img : List Nat) : preStepRaw st img = preStep st img := by
  unfold preStepRaw preStep
  simp only [X.tosQuick_val]
  by_cases hq : fTos img = 1
  · simp only [hq, if_true, ne_eq, ite_not, prestep_gen']
  · simp only [hq, if_false, ne_eq, ite_not, prestep_gen']

theorem preStep_matches (st : St) (img : List Nat) (h : mapperMatches st (fRealSrc img) = true) :
    mapperMatches (preStep st img) (fRealSrc img) = true := by
  have := mapperMatches_setActive st (fRealSrc img) (fEthSrc img) h
  unfold preStep
  split <;> simpa [mapperMatches] using this

theorem preStep_known (st : St) (img : List Nat) : (preStep st img).known = true := by
  have := setActive_known st (fRealSrc img) (fEthSrc img)
  unfold preStep
  split <;> simpa using this

theorem helloGen_preStep (st : St) (img : List Nat) : helloGen (preStep st img) img = fDiscGen img := by
  have hk := preStep_known st img
  unfold helloGen
  simp only [setActive_of_known _ _ hk, X.tosQuick_val]
  unfold preStep
  by_cases hq : fTos img = 1
  · simp [hq]
  · simp [hq]

/-- the reaction to a request of kind `r`: the arms of the dispatcher (a Discover of a station other than the active mapper is
    not answered; the Hello of the topology service waits 10 ms) -/
def reactTo (c : Cfg) (g : Glob) (w : World) (st : St) (img : List Nat) : Req → Out
  | .discover =>
    if mapperMatches st (fRealSrc img) = true then
      { answerHello c g w (preStep st img) img with
        fx := (if fTos img = 0 then [Fx.sleep 10] else []) ++ (answerHello c g w (preStep st img) img).fx }
    else { st := st, w := w, fx := [] }
  | .emit => parseEmit c w st img
  | .probe => parseProbe c w st img
  | .query => parseQuery c w st img
  | .large => parseQueryLargeTlv c g w st img
  | .reset0 => { st := resetSt st, w := resetWorld w st, fx := [] }
  | .reset1 => { st := { st with known := false, genQuick := 0 }, w := w, fx := [] }
  | .other => { st := st, w := w, fx := [] }

theorem parseFrameSt_req (c : Cfg) (g : Glob) (w : World) (st : St) (img : List Nat) :
    parseFrameSt c g w st img = reactTo c g w st img (reqOf img) := by
  unfold reqOf Req.of
  simp only [apply_ite (reactTo c g w st img)]
  by_cases o0 : fOpcode img = 0
  · -- a Discover: the pre-step runs in the two discovery services, and an accepted one is still accepted after it
    have hm' := preStep_matches st img
    by_cases t0 : fTos img = 0
    · by_cases hm : mapperMatches st (fRealSrc img) = true
      · simp [parseFrameSt, reactTo, t0, o0, hm, preStepRaw_eq, hm' hm]
      · simp [parseFrameSt, reactTo, t0, o0, hm]
    · by_cases t1 : fTos img = 1
      · by_cases hm : mapperMatches st (fRealSrc img) = true
        · simp [parseFrameSt, reactTo, t1, o0, hm, preStepRaw_eq, hm' hm]
        · simp [parseFrameSt, reactTo, t1, o0, hm]
      · simp [parseFrameSt, reactTo, t0, t1]
  · -- any other opcode: no pre-step, and the two switches agree arm by arm
    simp [parseFrameSt, reactTo, o0]

theorem parseFrame_cases {P : Option St × World × List Fx × Option Fault → Prop} (c : Cfg) (g : Glob) (w : World) (st : Option St)
    (img : List Nat)
    (short : rdOk img 0 (X.sizeofDemux + 4) = false → P (st, w, [], some (.oobRead "parseFrame.header")))
    (known : ∀ s, st = some s → rdOk img 0 (X.sizeofDemux + 4) = true →
      P (some (parseFrameSt c g w s img).st, (parseFrameSt c g w s img).w, (parseFrameSt c g w s img).fx, (parseFrameSt c g w s img).fault))
    (norec : st = none → rdOk img 0 (X.sizeofDemux + 4) = true → (w.malloc X.stateRecBytes).2 = false → P (none, (w.malloc X.stateRecBytes).1, [], none))
    (fresh : st = none → rdOk img 0 (X.sizeofDemux + 4) = true → (w.malloc X.stateRecBytes).2 = true →
      P (some (parseFrameSt c g (w.malloc X.stateRecBytes).1 {} img).st, (parseFrameSt c g (w.malloc X.stateRecBytes).1 {} img).w,
         (parseFrameSt c g (w.malloc X.stateRecBytes).1 {} img).fx, (parseFrameSt c g (w.malloc X.stateRecBytes).1 {} img).fault)) :
    P (parseFrame c g w st img) := by
  unfold parseFrame
  refine ite_not_cases short fun hrd => ?_
  cases st with
  | some s => exact known s rfl hrd
  | none =>
    simp only []
    exact ite_not_cases (norec rfl hrd) (fresh rfl hrd)

end LLTD
