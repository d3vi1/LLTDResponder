/- The table interpreter shared by the three automata, over any table and time-out list: what a lookup returns, the time-out
   recursion of `switch_state_*` in closed form, and what it means for a table to follow a specified transition function. -/
import LLTD.Model.Automata

namespace LLTD

def inputsOf (tbl : TransTable) : List Int := tbl.map (fun r => r.2.2)

theorem lookup_no_row {tbl : TransTable} {cur : Nat} {i : Int} (h : ∀ r ∈ tbl, ¬(cur = r.1 ∧ r.2.2 = i)) :
    lookup tbl cur i = (cur, false) :=
  List.foldlRecOn (motive := (· = (cur, false))) tbl _ rfl (fun b hb r hr => by rw [if_neg (h r hr)]; exact hb)

theorem lookup_nomatch {tbl : TransTable} {cur : Nat} {i : Int} (h : i ∉ inputsOf tbl) :
    lookup tbl cur i = (cur, false) :=
  lookup_no_row (fun r hr hc => h (List.mem_map.mpr ⟨r, hr, hc.2⟩))

theorem lookup_from_ge (tbl : TransTable) (cur : Nat) (i : Int) (n : Nat) (hc : n ≤ cur) (h : ∀ r ∈ tbl, r.1 < n) :
    lookup tbl cur i = (cur, false) :=
  lookup_no_row (fun r hr hcond => by have := h r hr; omega)

/-- every row of the table as built by init_automata_enumeration stays inside states_table -/
theorem enumerationTable_rows : ∀ r ∈ X.enumerationTable, r.1 < X.enumerationStatesNo ∧ r.2.1 < X.enumerationStatesNo := by decide

theorem lookup_range {tbl : TransTable} {cur : Nat} {i : Int} {n : Nat} (hc : cur < n)
    (h : ∀ r ∈ tbl, r.2.1 < n) : (lookup tbl cur i).1 < n :=
  List.foldlRecOn (motive := fun acc : Nat × Bool => acc.1 < n) tbl _ hc (fun b hb r hr => by
    by_cases hm : cur = r.1 ∧ r.2.2 = i
    · rw [if_pos hm]; exact h r hr
    · rw [if_neg hm]; exact hb)

theorem diff64_of_le (now last : Nat) (h : last ≤ now) (hn : now < u64) : diff64 now last = now - last := by
  unfold diff64
  rw [Nat.mod_eq_of_lt (Nat.lt_of_le_of_lt h hn), Nat.add_comm now, Nat.add_sub_assoc h, Nat.add_mod_left,
    Nat.mod_eq_of_lt (Nat.lt_of_le_of_lt (Nat.sub_le ..) hn)]

theorem diff64_self (now : Nat) : diff64 now now = 0 := by
  unfold diff64 u64; omega

/-! ## The timed interpreter in closed form

`switch_state_*` takes the time-out input -1 instead of its own when the state has expired, and then calls itself with -1
once more.  The second level acts on -1 whether or not it finds the state expired again, so one call is one lookup within
the time-out and two lookups of -1 after it.  The guard is written as the property predicates write it. -/

theorem stepTimedR_eq (tbl : TransTable) (tos : List Nat) (a : Fsm) (i : Int) (now1 now2 : Nat) :
    stepTimedR tbl tos a i now1 now2 =
      if timeoutOf tos a.state = 0 ∨ diff64 now1 a.lastTs ≤ timeoutOf tos a.state then ⟨(lookup tbl a.state i).1, now1⟩
      else ⟨(lookup tbl (lookup tbl a.state (-1)).1 (-1)).1, now2⟩ := by
  by_cases hw : timeoutOf tos a.state = 0 ∨ diff64 now1 a.lastTs ≤ timeoutOf tos a.state
  · have hx : ¬(timeoutOf tos a.state ≠ 0 ∧ diff64 now1 a.lastTs > timeoutOf tos a.state) := by omega
    simp only [stepTimedR, if_neg hx, if_pos hw]
  · have hx : timeoutOf tos a.state ≠ 0 ∧ diff64 now1 a.lastTs > timeoutOf tos a.state := by omega
    simp only [stepTimedR, if_pos hx, if_neg hw, stepTimedAux, ite_self]

theorem stepTimedAux_succ (tbl : TransTable) (tos : List Nat) (k : Nat) (a : Fsm) (i : Int) (now : Nat) :
    stepTimedAux tbl tos (k + 1) a i now =
      if timeoutOf tos a.state ≠ 0 ∧ diff64 now a.lastTs > timeoutOf tos a.state
      then stepTimedAux tbl tos k ⟨(lookup tbl a.state (-1)).1, now⟩ (-1) now else ⟨(lookup tbl a.state i).1, now⟩ := by
  by_cases h : timeoutOf tos a.state ≠ 0 ∧ diff64 now a.lastTs > timeoutOf tos a.state
  · simp only [stepTimedAux, if_pos h]
  · simp only [stepTimedAux, if_neg h]

/-- any fuel from 2 on: the state stamped `now` on the first level has not expired at `now` on the second -/
theorem stepTimedAux_add_two (tbl : TransTable) (tos : List Nat) (k : Nat) (a : Fsm) (i : Int) (now : Nat) :
    stepTimedAux tbl tos (k + 2) a i now =
      if timeoutOf tos a.state = 0 ∨ diff64 now a.lastTs ≤ timeoutOf tos a.state then ⟨(lookup tbl a.state i).1, now⟩
      else ⟨(lookup tbl (lookup tbl a.state (-1)).1 (-1)).1, now⟩ := by
  rw [stepTimedAux_succ]
  by_cases hw : timeoutOf tos a.state = 0 ∨ diff64 now a.lastTs ≤ timeoutOf tos a.state
  · rw [if_pos hw, if_neg (by omega)]
  · rw [if_neg hw, if_pos (by omega), stepTimedAux_succ, diff64_self, if_neg (by omega)]

theorem stepTimed_eq (tbl : TransTable) (tos : List Nat) (a : Fsm) (i : Int) (now : Nat) :
    stepTimed tbl tos a i now =
      if timeoutOf tos a.state = 0 ∨ diff64 now a.lastTs ≤ timeoutOf tos a.state then ⟨(lookup tbl a.state i).1, now⟩
      else ⟨(lookup tbl (lookup tbl a.state (-1)).1 (-1)).1, now⟩ :=
  stepTimedAux_add_two tbl tos 0 a i now

theorem stepTimedR_same (tbl : TransTable) (tos : List Nat) (a : Fsm) (i : Int) (now : Nat) :
    stepTimedR tbl tos a i now now = stepTimed tbl tos a i now := rfl

theorem stepTimed_lastTs (tbl : TransTable) (tos : List Nat) (a : Fsm) (i : Int) (now : Nat) :
    (stepTimed tbl tos a i now).lastTs = now := by
  rw [stepTimed_eq]; split <;> rfl

/-- the recursion of switch_state_* never goes deeper than two levels (termination argument) -/
theorem stepTimedAux_fuel (tbl : TransTable) (tos : List Nat) (k : Nat) (a : Fsm) (i : Int) (now : Nat) (hn : now < u64) :
    stepTimedAux tbl tos (k + 2) a i now = stepTimedAux tbl tos 2 a i now := by
  rw [stepTimedAux_add_two, stepTimedAux_add_two tbl tos 0]

/-! ## A table that follows a specified transition function

What C14 and C15 need of their extracted table: on the states below `n` it computes `spec`, it never leaves them, and two
time-outs in a row end in `home`.  `listed`, `closed` and `home` are finite facts about the table; `other` is the one
argument (`spec` ignores what the table does not list). -/

structure Follows (tbl : TransTable) (n : Nat) (spec : Nat → Int → Nat) (home : Nat) : Prop where
  listed : ∀ s < n, ∀ i ∈ inputsOf tbl, (lookup tbl s i).1 = spec s i
  other  : ∀ s < n, ∀ i ∉ inputsOf tbl, spec s i = s
  closed : ∀ r ∈ tbl, r.2.1 < n
  home   : ∀ s < n, (lookup tbl (lookup tbl s (-1)).1 (-1)).1 = home

namespace Follows
variable {tbl : TransTable} {n : Nat} {spec : Nat → Int → Nat} {home : Nat} (F : Follows tbl n spec home)
include F

theorem lookup_spec (s : Nat) (hs : s < n) (i : Int) : (lookup tbl s i).1 = spec s i := by
  by_cases h : i ∈ inputsOf tbl
  · exact F.listed s hs i h
  · rw [lookup_nomatch h, F.other s hs i h]

theorem stateR {tos : List Nat} {a : Fsm} (hs : a.state < n) (i : Int) (now1 now2 : Nat) :
    (stepTimedR tbl tos a i now1 now2).state =
      if timeoutOf tos a.state = 0 ∨ diff64 now1 a.lastTs ≤ timeoutOf tos a.state then spec a.state i else home := by
  rw [stepTimedR_eq]
  split
  · exact F.lookup_spec _ hs i
  · exact F.home _ hs

theorem state {tos : List Nat} {a : Fsm} (hs : a.state < n) (i : Int) (now : Nat) :
    (stepTimed tbl tos a i now).state =
      if timeoutOf tos a.state = 0 ∨ diff64 now a.lastTs ≤ timeoutOf tos a.state then spec a.state i else home :=
  F.stateR hs i now now

theorem state_lt {tos : List Nat} {a : Fsm} (hs : a.state < n) (i : Int) (now : Nat) :
    (stepTimed tbl tos a i now).state < n := by
  rw [stepTimed_eq]
  split
  · exact lookup_range hs F.closed
  · exact lookup_range (lookup_range hs F.closed) F.closed

end Follows

end LLTD
