/-
  `mapper_matches` and `set_active_mapper` of lltdBlock.c, the two functions every "one mapper at a time" decision of C05 goes
  through, as translated by tools/c2lean_wire.py are the model's `mapperMatches` / `setActiveMapper` under the encoding `Enc` of the
  model's record in the bytes of the per-interface record.  The offsets of `mapper_real` / `mapper_apparent` / `mapper_known`
  (28 / 34 / 40) come out of a layout probe that includes lltdBlock.c itself; a changed struct changes them in the translation.
-/
import LLTD.Lemmas.TranslatedWireEq

namespace LLTD.TMapEq
open LLTD LLTD.CSem LLTD.TWEq

theorem compare_eq (env : TW.Env) (a b : List Nat) (ha : 6 ≤ a.length) (hb : 6 ≤ b.length) :
    (TW.compareEthernetAddress env a b).ret = (a.take 6 == b.take 6) := by
  obtain ⟨a0, a1, a2, a3, a4, a5, ra, rfl⟩ := TEq.six_cells a ha
  obtain ⟨b0, b1, b2, b3, b4, b5, rb, rfl⟩ := TEq.six_cells b hb
  rw [Bool.eq_iff_iff]
  simp [TW.compareEthernetAddress, rd, unle, int_beq, and_assoc]

/-- the bytes of a `lltd_iface_state` hold the mapper part of the model's record -/
structure Enc (b : List Nat) (st : St) : Prop where
  len   : 41 ≤ b.length
  real  : slice b 28 6 = st.mapperReal
  app   : slice b 34 6 = st.mapperApparent
  known : (byteAt b 40 != 0) = st.known

/-- the test `st->mapper_known` of the C text, read through the encoding -/
theorem Enc.known_read {b : List Nat} {st : St} (h : Enc b st) : (unle (rd b (0 + 40) 1) != 0) = st.known := by
  rw [Nat.zero_add, unle_rd1 b 40 (by have := h.len; omega)]; exact h.known

theorem mapper_matches_eq (env : TW.Env) (b : List Nat) (st : St) (rs : Mac) (h : Enc b st) (hrs : rs.length = 6) :
    (TW.mapper_matches env b rs).ret = mapperMatches st rs := by
  have hc : (TW.compareEthernetAddress env (List.drop 28 b) rs).ret = (st.mapperReal == rs) := by
    rw [compare_eq env _ _ (by rw [List.length_drop]; have := h.len; omega) (Nat.le_of_eq hrs.symm)]
    exact congr (congrArg _ h.real) (List.take_of_length_le (Nat.le_of_eq hrs))
  cases hk : st.known <;> simp [TW.mapper_matches, h.known_read, hk, hc, mapperMatches]

/-- the record as the concatenation of what lies before the mapper fields (28 bytes: context pointer, list link, sees-list head and
    count), the real and the apparent address, the `known` byte and the rest -/
def recBytes (p r a : List Nat) (k : Nat) (rest : List Nat) : List Nat := p ++ (r ++ (a ++ (k :: rest)))

theorem enc_rec (p r a rest : List Nat) (k : Nat) (st : St) (hp : p.length = 28) (hr : r.length = 6) (ha : a.length = 6)
    (h1 : r = st.mapperReal) (h2 : a = st.mapperApparent) (h3 : (k != 0) = st.known) : Enc (recBytes p r a k rest) st := by
  unfold recBytes
  refine ⟨by simp only [List.length_append, List.length_cons, hp, hr, ha]; omega, ?_, ?_, ?_⟩
  · rw [← h1, slice_append_add p _ 28 0 6 (by rw [hp]), slice_prefix r _ 6 hr.symm]
  · rw [← h2, slice_append_add p _ 34 6 6 (by rw [hp]), slice_append_add r _ 6 0 6 (by rw [hr]), slice_prefix a _ 6 ha.symm]
  · rw [← h3, byteAt_append_right p _ 40 (by omega), byteAt_append_right r _ _ (by omega), byteAt_append_right a _ _ (by omega),
      hp, hr, ha]; rfl

/-- with a mapper already known the record is untouched; otherwise exactly the two addresses and the `known` byte are stored -/
theorem set_active_mapper_eq (env : TW.Env) (p r a rest : List Nat) (k : Nat) (st : St) (rs es : Mac)
    (hp : p.length = 28) (hr : r.length = 6) (ha : a.length = 6) (hrs : rs.length = 6) (hes : es.length = 6)
    (h1 : r = st.mapperReal) (h2 : a = st.mapperApparent) (h3 : (k != 0) = st.known) :
    (TW.set_active_mapper env (recBytes p r a k rest) rs es).st =
      (if st.known then recBytes p r a k rest else recBytes p rs es 1 rest)
    ∧ Enc (TW.set_active_mapper env (recBytes p r a k rest) rs es).st (setActiveMapper st rs es) := by
  have henc := enc_rec p r a rest k st hp hr ha h1 h2 h3
  cases hkn : st.known
  · -- no mapper yet: the stores at 28, 34 and 40 land on the fields `r`, `a`, `k` of `recBytes`
    have hst : (TW.set_active_mapper env (recBytes p r a k rest) rs es).st = recBytes p rs es 1 rest := by
      simp only [TW.set_active_mapper, henc.known_read, hkn, rd_zero_all _ 6 hrs, rd_zero_all _ 6 hes, le_one]
      simp only [recBytes, wr_skip, wr_zero_one, wr_here, hp, hr, ha, hrs, hes, Nat.reduceLeDiff, Nat.le_refl,
        Nat.sub_self, Nat.reduceSub, Nat.zero_add, Bool.not_false, Nat.reduceMod, ↓reduceIte]
    rw [hst]
    exact ⟨by simp, enc_rec p rs es rest 1 _ hp hrs hes (by simp [setActiveMapper, hkn]) (by simp [setActiveMapper, hkn])
      (by simp [setActiveMapper, hkn])⟩
  · have hst : (TW.set_active_mapper env (recBytes p r a k rest) rs es).st = recBytes p r a k rest := by
      simp [TW.set_active_mapper, henc.known_read, hkn]
    rw [hst, show setActiveMapper st rs es = st by simp [setActiveMapper, hkn]]
    exact ⟨by simp, henc⟩

end LLTD.TMapEq
