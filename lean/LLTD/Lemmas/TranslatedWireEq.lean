/-
  The byte writers of lltdWire.c / lltdTlvOps.c / lltdEndian.h as translated by tools/c2lean_wire.py (`Generated/TranslatedWire.lean`,
  rewritten on every run) store exactly the bytes the model builds by concatenation (Model/Block.lean: `lltdHeader`, `helloHeader`,
  `tlv…`): for every buffer with room, every offset, every value in the range of its C type.  The port getters are oracles of the
  translation; `envOf c g base` makes them answer as the attribute record says (trusted: that the real ports do).
-/
import LLTD.Generated.TranslatedWire
import LLTD.Model.Block
import LLTD.Lemmas.XVals
import LLTD.Lemmas.Bytes
import LLTD.Lemmas.Hello
import LLTD.Lemmas.Loop

namespace LLTD.TWEq
open LLTD LLTD.CSem

theorem wr_off (pre l bs : List Nat) (k : Nat) : wr (pre ++ l) (pre.length + k) bs = pre ++ wr l k bs := by
  unfold wr
  rw [List.take_length_add_append, Nat.add_assoc, List.drop_length_add_append]
  simp only [List.append_assoc]

@[simp] theorem wr_zero (l bs : List Nat) : wr l 0 bs = bs ++ l.drop bs.length := by simp [wr]
@[simp] theorem wr_zero_one (a w : Nat) (l : List Nat) : wr (w :: l) 0 [a] = a :: l := wr_zero _ _

theorem wr_skip (x l bs : List Nat) (k : Nat) (h : x.length ≤ k) : wr (x ++ l) k bs = x ++ wr l (k - x.length) bs := by
  have := wr_off x l bs (k - x.length)
  rwa [Nat.add_sub_cancel' h] at this

theorem wr_skip_cons (a : Nat) (l bs : List Nat) (k : Nat) (h : 1 ≤ k) : wr (a :: l) k bs = a :: wr l (k - 1) bs :=
  wr_skip [a] l bs k h

theorem wr_here (m b bs : List Nat) (h : m.length = bs.length) : wr (m ++ b) 0 bs = bs ++ b := by
  simp [h]

theorem wr_full {l bs : List Nat} (h : l.length = bs.length) : wr l 0 bs = bs := by simp [← h]

theorem wr_nil (l : List Nat) (off : Nat) : wr l off [] = l := by simp [wr]

/-- `CSem.rd` is `slice` (both `(l.drop off).take n`): the memory model's reads inherit the lemmas of Lemmas/Bytes.lean -/
theorem rd_zero_all (l : List Nat) (n : Nat) (h : l.length = n) : rd l 0 n = l := slice_all l n h

theorem rd_wr_same (l bs : List Nat) (n : Nat) (h : bs.length = n) : rd (wr l 0 bs) 0 n = bs := by
  simp [rd, ← h]

@[simp] theorem le_one (v : Nat) : le 1 v = [v % 256] := rfl
theorem le_length (n v : Nat) : (le n v).length = n := by
  induction n generalizing v with
  | zero => rfl
  | succ n ih => simp [le, ih]

theorem unle_le (n v : Nat) (h : v < 256 ^ n) : unle (le n v) = v := by
  induction n generalizing v with
  | zero => exact (Nat.lt_one_iff.mp h).symm
  | succ n ih =>
    have : v / 256 < 256 ^ n := Nat.div_lt_of_lt_mul (by rw [Nat.pow_succ, Nat.mul_comm] at h; exact h)
    simp only [le, unle, ih _ this]; exact Nat.mod_add_div v 256

/-- a scalar stored through an out-pointer of its own width reads back -/
theorem unle_wr_le (out : List Nat) (n v : Nat) (ho : out.length = n) (hv : v < 256 ^ n) : unle (wr out 0 (le n v)) = v := by
  rw [wr_full (by rw [le_length, ho]), unle_le n v hv]

theorem le_unle (l : List Nat) (hb : isBytes l) : le l.length (unle l) = l := by
  induction l with
  | nil => rfl
  | cons b bs ih =>
    have hb0 : b < 256 := hb b (by simp)
    simp only [List.length_cons, le, unle]
    rw [Nat.add_mul_mod_self_left, Nat.mod_eq_of_lt hb0, Nat.add_mul_div_left _ _ (by decide), Nat.div_eq_of_lt hb0, Nat.zero_add,
      ih (fun x hx => hb x (by simp [hx]))]

theorem rd_be (n v : Nat) : rd (be n v) 0 n = be n v := rd_zero_all _ n (be_length n v)
theorem rd_le (n v : Nat) : rd (le n v) 0 n = le n v := rd_zero_all _ n (le_length n v)

theorem unle_rd1 (img : List Nat) (off : Nat) (h : off < img.length) : unle (rd img off 1) = byteAt img off := by
  rw [rd, List.drop_eq_getElem_cons h, byteAt, List.getD_eq_getElem?_getD, List.getElem?_eq_getElem h]; rfl

theorem toU_natCast (n x : Nat) : toU n (x : Int) = x % 2 ^ n := by
  unfold toU; rw [← Int.natCast_emod]; exact Int.toNat_natCast _

theorem and_mul_two_pow (v m k : Nat) : v &&& (m * 2 ^ k) = (v / 2 ^ k &&& m) * 2 ^ k := by
  have h := Nat.div_add_mod (v &&& (m * 2 ^ k)) (2 ^ k)
  rw [Nat.and_div_two_pow, Nat.and_mod_two_pow, Nat.mul_mod_left, Nat.and_zero, Nat.add_zero,
    Nat.mul_div_cancel _ (Nat.two_pow_pos k), Nat.mul_comm] at h
  exact h.symm

theorem and_byte (v k : Nat) : v &&& (255 * 2 ^ k) = v / 2 ^ k % 256 * 2 ^ k := by
  rw [and_mul_two_pow]; exact congrArg (· * 2 ^ k) (Nat.and_two_pow_sub_one_eq_mod _ 8)

theorem bit_test (x k : Nat) : ((x &&& 2 ^ k) != 0) = decide (x / 2 ^ k % 2 = 1) := by
  have h := and_mul_two_pow x 1 k
  rw [Nat.one_mul, Nat.and_one_is_mod] at h
  have hp := Nat.two_pow_pos k
  rcases Nat.mod_two_eq_zero_or_one (x / 2 ^ k) with e | e <;> simp [h, e]

theorem and_mask (v k : Nat) : v &&& (255 <<< k) = ((v >>> k) % 256) <<< k := by
  rw [Nat.shiftLeft_eq, Nat.shiftLeft_eq, Nat.shiftRight_eq_div_pow]; exact and_byte v k

theorem or_add (a b : Nat) (i : Nat) (h : b < 2 ^ i) : a * 2 ^ i ||| b = a * 2 ^ i + b := by
  rw [← Nat.shiftLeft_eq]; exact (Nat.shiftLeft_add_eq_or_of_lt h a).symm

/-- two fields side by side fit the sum of their widths -/
theorem cat_lt (a b i j : Nat) (ha : a < 2 ^ i) (hb : b < 2 ^ j) : a * 2 ^ j + b < 2 ^ (i + j) :=
  calc a * 2 ^ j + b < a * 2 ^ j + 2 ^ j := Nat.add_lt_add_left hb _
    _ = (a + 1) * 2 ^ j := by rw [Nat.add_mul, Nat.one_mul]
    _ ≤ 2 ^ i * 2 ^ j := Nat.mul_le_mul_right _ ha
    _ = 2 ^ (i + j) := (Nat.pow_add 2 i j).symm

theorem is_le (env : TW.Env) : (TW.lltd_is_little_endian env).ret = 1 := by
  simp only [TW.lltd_is_little_endian]; decide

theorem bswap16_val (env : TW.Env) (v : Nat) (h : v < 65536) : (TW.lltd_bswap16 env v).ret = (v % 256) * 256 + v / 256 := by
  -- `v << 8` and `v >> 8` on the `uint16_t` promoted to `int`: the casts to `Int` and back are C's integer promotion
  have e1 : Int.toNat ((v : Int) * ((2 ^ (Int.toNat (8 : Int)) : Nat) : Int)) = v * 2 ^ 8 := Int.toNat_natCast _
  have e2 : Int.toNat ((v : Int) / ((2 ^ (Int.toNat (8 : Int)) : Nat) : Int)) = v / 256 := Int.toNat_natCast _
  simp only [TW.lltd_bswap16, e1, e2, or_add v (v / 256) 8 (by omega), toU_natCast]
  omega

theorem htons_val (env : TW.Env) (v : Nat) (h : v < 65536) : (TW.lltd_htons env v).ret = v % 256 * 256 + v / 256 := by
  simp only [TW.lltd_htons, is_le, show ((1 : Int) != 0) = true from rfl, bswap16_val env v h, toU_natCast, ↓reduceIte]
  exact Nat.mod_eq_of_lt (by omega)

theorem le2_swap (v : Nat) (h : v < 65536) : le 2 ((v % 256) * 256 + v / 256) = be 2 v := by
  have h1 : v / 256 < 256 := Nat.div_lt_of_lt_mul h
  have e : ∀ b0 b1 : Nat, b0 * 256 + b1 = b1 + 256 * b0 := by intros; omega
  simp only [e, le, be, Nat.add_mul_mod_self_left, Nat.add_mul_div_left _ _ (show 0 < 256 by decide),
    Nat.div_eq_of_lt h1, Nat.zero_add, Nat.mod_mod, List.nil_append, List.cons_append]

/-- the model writes 16 / 32-bit fields in network order by definition (`be`); for the C text on a little-endian host that is this
    theorem and `htonl_bytes` -/
theorem htons_bytes (env : TW.Env) (v : Nat) (h : v < 65536) : le 2 (TW.lltd_htons env v).ret = be 2 v := by
  rw [htons_val env v h]; exact le2_swap v h

theorem bswap32_val (env : TW.Env) (v : Nat) (h : v < 4294967296) :
    (TW.lltd_bswap32 env v).ret = (v % 256) * 16777216 + (v / 256 % 256) * 65536 + (v / 65536 % 256) * 256 + v / 16777216 := by
  have m0 : v &&& 255 = v % 256 := Nat.and_two_pow_sub_one_eq_mod v 8
  have m1 : v &&& 65280 = v / 256 % 256 * 256 := and_byte v 8
  have m2 : v &&& 16711680 = v / 65536 % 256 * 65536 := and_byte v 16
  have m3 : v &&& 4278190080 = v / 16777216 % 256 * 16777216 := and_byte v 24
  simp only [TW.lltd_bswap32, m0, m1, m2, m3, show Int.toNat 24 = 24 from rfl, show Int.toNat 8 = 8 from rfl,
    Nat.shiftLeft_eq, Nat.shiftRight_eq_div_pow]
  -- the four bytes of `v`, each moved to the mirrored place; the places are disjoint, so `|||` adds
  have h0 : v % 256 < 2 ^ 8 := Nat.mod_lt _ (by decide)
  have h1 : v / 256 % 256 < 2 ^ 8 := Nat.mod_lt _ (by decide)
  have h2 : v / 65536 % 256 < 2 ^ 8 := Nat.mod_lt _ (by decide)
  have h3 : v / 16777216 < 2 ^ 8 := Nat.div_lt_of_lt_mul h
  generalize v % 256 = b0 at *
  generalize v / 256 % 256 = b1 at *
  generalize v / 65536 % 256 = b2 at *
  generalize v / 16777216 = b3 at *
  have e0 : b0 * 2 ^ 24 % 4294967296 = b0 * 2 ^ 24 :=
    Nat.mod_eq_of_lt (Nat.lt_of_lt_of_le (Nat.mul_lt_mul_of_pos_right h0 (by decide)) (by decide))
  have e1 : b1 * 256 * 2 ^ 8 % 4294967296 = b1 * 2 ^ 16 := by
    rw [Nat.mul_assoc]; exact Nat.mod_eq_of_lt (Nat.lt_of_lt_of_le (Nat.mul_lt_mul_of_pos_right h1 (by decide)) (by decide))
  have e2 : b2 * 65536 / 2 ^ 8 = b2 * 2 ^ 8 := Nat.mul_div_assoc b2 (by decide : 2 ^ 8 ∣ 65536)
  have e3 : b3 % 256 * 16777216 / 2 ^ 24 = b3 := by rw [Nat.mod_eq_of_lt h3]; exact Nat.mul_div_cancel b3 (by decide)
  rw [e0, e1, e2, e3, Nat.or_assoc, Nat.or_assoc, or_add b2 b3 8 h3, or_add b1 _ 16 (cat_lt b2 b3 8 8 h2 h3),
    or_add b0 _ 24 (cat_lt b1 _ 8 16 h1 (cat_lt b2 b3 8 8 h2 h3)), ← Nat.add_assoc, ← Nat.add_assoc]

theorem le4_swap (v : Nat) (h : v < 4294967296) :
    le 4 ((v % 256) * 16777216 + (v / 256 % 256) * 65536 + (v / 65536 % 256) * 256 + v / 16777216) = be 4 v := by
  have h3 : v / 16777216 < 256 := Nat.div_lt_of_lt_mul h
  have e : ∀ b0 b1 b2 b3 : Nat, b0 * 16777216 + b1 * 65536 + b2 * 256 + b3 = b3 + 256 * (b2 + 256 * (b1 + 256 * b0)) := by
    intros; omega
  simp only [e, le, be, Nat.add_mul_mod_self_left, Nat.add_mul_div_left _ _ (show 0 < 256 by decide), Nat.mod_mod,
    Nat.div_eq_of_lt h3, Nat.div_eq_of_lt (Nat.mod_lt _ (show 0 < 256 by decide)), Nat.zero_add, Nat.mod_eq_of_lt h3,
    Nat.div_div_eq_div_mul, List.nil_append, List.cons_append]

theorem htonl_bytes (env : TW.Env) (v : Nat) (h : v < 4294967296) : le 4 (TW.lltd_htonl env v).ret = be 4 v := by
  simp only [TW.lltd_htonl, is_le, show ((1 : Int) != 0) = true from rfl, bswap32_val env v h, ↓reduceIte]
  exact le4_swap v h

theorem setHelloHeader_eq (env : TW.Env) (pre g c a rest app cur : List Nat) (gen : Nat)
    (hg : g.length = 2) (hc : c.length = 6) (ha : a.length = 6) (happ : app.length = 6) (hcur : cur.length = 6) (hgen : gen < 65536) :
    (TW.setHelloHeader env (pre ++ (g ++ (c ++ (a ++ rest)))) pre.length app cur gen).buffer = pre ++ (helloHeader gen cur app ++ rest)
    ∧ (TW.setHelloHeader env (pre ++ (g ++ (c ++ (a ++ rest)))) pre.length app cur gen).ret = 14 := by
  refine ⟨?_, rfl⟩
  simp only [TW.setHelloHeader, Nat.zero_add, htons_bytes env gen hgen, rd_zero_all _ 6 happ, rd_zero_all _ 6 hcur, wr_off]
  have hbe : (be 2 gen).length = 2 := be_length 2 gen
  simp only [wr_skip, wr_here, hg, hc, ha, happ, hcur, hbe, Nat.reduceLeDiff, Nat.le_refl, Nat.sub_self, Nat.reduceSub, helloHeader,
    List.append_assoc]

theorem setLltdHeaderEx_eq (env : TW.Env) (d s e v t o rd' rs' q rest es ed rs rd : List Nat) (r seq op tos : Nat)
    (hd : d.length = 6) (hs : s.length = 6) (he : e.length = 2) (hv : v.length = 1) (ht : t.length = 1) (ho : o.length = 1)
    (hrd' : rd'.length = 6) (hrs' : rs'.length = 6) (hq : q.length = 2)
    (hes : es.length = 6) (hed : ed.length = 6) (hrs : rs.length = 6) (hrd : rd.length = 6)
    (hseq : seq < 65536) (hop : op < 256) (htos : tos < 256) :
    (TW.setLltdHeaderEx env (d ++ (s ++ (e ++ (v ++ (t ++ ([r] ++ (o ++ (rd' ++ (rs' ++ (q ++ rest)))))))))) es ed rs rd seq op tos).buffer
      = lltdHeader r ed es rd rs seq op tos ++ rest
    ∧ (TW.setLltdHeaderEx env (d ++ (s ++ (e ++ (v ++ (t ++ ([r] ++ (o ++ (rd' ++ (rs' ++ (q ++ rest)))))))))) es ed rs rd seq op tos).ret = 32 := by
  refine ⟨?_, rfl⟩
  simp only [TW.setLltdHeaderEx, Nat.zero_add, htons_bytes env seq hseq, htons_bytes env 35033 (by decide), rd_zero_all _ 6 hes, rd_zero_all _ 6 hed,
    rd_zero_all _ 6 hrs, rd_zero_all _ 6 hrd, le_one, Nat.mod_eq_of_lt hop, Nat.mod_eq_of_lt htos]
  have hbe : (be 2 seq).length = 2 := be_length 2 seq
  have hbe' : (be 2 35033).length = 2 := be_length 2 35033
  -- every store walks over the segments before its field (`wr_skip`) and replaces that field (`wr_here`); the lengths decide the side conditions
  simp only [wr_skip, wr_skip_cons, wr_here, hd, hs, he, hv, ht, ho, hrd', hrs', hq, hes, hed, hrs, hrd, hbe, hbe', List.length_singleton,
    Nat.reduceLeDiff, Nat.le_refl, Nat.sub_self, Nat.reduceSub, lltdHeader, X.etherType_val, List.append_assoc, List.cons_append, List.nil_append]

/-- on a zeroed header, as every caller in lltdBlock.c hands it over -/
theorem setLltdHeaderEx_zero (env : TW.Env) (rest es ed rs rd : List Nat) (seq op tos : Nat)
    (hes : es.length = 6) (hed : ed.length = 6) (hrs : rs.length = 6) (hrd : rd.length = 6)
    (hseq : seq < 65536) (hop : op < 256) (htos : tos < 256) :
    (TW.setLltdHeaderEx env (List.replicate 32 0 ++ rest) es ed rs rd seq op tos).buffer = lltdHeader 0 ed es rd rs seq op tos ++ rest
    ∧ (TW.setLltdHeaderEx env (List.replicate 32 0 ++ rest) es ed rs rd seq op tos).ret = 32 :=
  setLltdHeaderEx_eq env (List.replicate 6 0) (List.replicate 6 0) [0, 0] [0] [0] [0] (List.replicate 6 0) (List.replicate 6 0) [0, 0] rest
    es ed rs rd 0 seq op tos rfl rfl rfl rfl rfl rfl rfl rfl rfl hes hed hrs hrd hseq hop htos

/- `setLltdHeader` and `setLltdHeaderEx` are textual copies of each other in lltdWire.c (neither calls the other), so their translations
   agree by unfolding; an edit to only one of them makes these two `rfl`s fail. -/
theorem setLltdHeader_buffer (env : TW.Env) (b src dst : List Nat) (seq op tos : Nat) :
    (TW.setLltdHeader env b src dst seq op tos).buffer = (TW.setLltdHeaderEx env b src dst src dst seq op tos).buffer := rfl
theorem setLltdHeader_ret (env : TW.Env) (b src dst : List Nat) (seq op tos : Nat) :
    (TW.setLltdHeader env b src dst seq op tos).ret = (TW.setLltdHeaderEx env b src dst src dst seq op tos).ret := rfl

theorem setLltdHeader_eq (env : TW.Env) (d s e v t o rd' rs' q rest src dst : List Nat) (r seq op tos : Nat)
    (hd : d.length = 6) (hs : s.length = 6) (he : e.length = 2) (hv : v.length = 1) (ht : t.length = 1) (ho : o.length = 1)
    (hrd' : rd'.length = 6) (hrs' : rs'.length = 6) (hq : q.length = 2)
    (hsrc : src.length = 6) (hdst : dst.length = 6)
    (hseq : seq < 65536) (hop : op < 256) (htos : tos < 256) :
    (TW.setLltdHeader env (d ++ (s ++ (e ++ (v ++ (t ++ ([r] ++ (o ++ (rd' ++ (rs' ++ (q ++ rest)))))))))) src dst seq op tos).buffer
      = lltdHeader r dst src dst src seq op tos ++ rest
    ∧ (TW.setLltdHeader env (d ++ (s ++ (e ++ (v ++ (t ++ ([r] ++ (o ++ (rd' ++ (rs' ++ (q ++ rest)))))))))) src dst seq op tos).ret = 32 := by
  rw [setLltdHeader_buffer, setLltdHeader_ret]
  exact setLltdHeaderEx_eq env d s e v t o rd' rs' q rest src dst src dst r seq op tos hd hs he hv ht ho hrd' hrs' hq hsrc hdst hsrc hdst hseq hop htos

/-- the hypotheses are satisfiable: a zeroed 40-byte buffer is such a concatenation, and the translated function stores the model's header in it -/
example (env : TW.Env) :
    (TW.setLltdHeaderEx env (List.replicate 40 0) [2,0,0,0,0,1] [255,255,255,255,255,255] [2,0,0,0,0,1] [255,255,255,255,255,255] 0 1 0).buffer
      = lltdHeader 0 [255,255,255,255,255,255] [2,0,0,0,0,1] [255,255,255,255,255,255] [2,0,0,0,0,1] 0 1 0 ++ List.replicate 8 0 :=
  (setLltdHeaderEx_eq env (List.replicate 6 0) (List.replicate 6 0) [0,0] [0] [0] [0] (List.replicate 6 0) (List.replicate 6 0) [0,0]
    (List.replicate 8 0) _ _ _ _ 0 0 1 0 rfl rfl rfl rfl rfl rfl rfl rfl rfl rfl rfl rfl rfl (by decide) (by decide) (by decide)).1

/-- the getters' behaviour for an attribute record `c` / process-wide data `g` (what harness/vport.c does): a failing getter stores
    nothing and returns non-zero, a succeeding one stores the object representation of the value; getters the Hello does not use keep
    the behaviour of `base` -/
def envOf (c : Cfg) (g : Glob) (base : TW.Env) : TW.Env :=
  { base with
    get_mac_address := { retI := if c.failMac then -1 else 0, out := if c.failMac then [] else c.mac }
    get_characteristics_flags := { retN := c.flags }
    get_if_type := { retI := if c.failIfType then -1 else 0, out := if c.failIfType then [] else le 4 c.iftype }
    get_ipv4_address := { retI := if c.failIpv4 then -1 else 0, out := if c.failIpv4 then [] else c.ipv4 }
    get_ipv6_address := { retI := if c.failIpv6 then -1 else 0, out := if c.failIpv6 then [] else c.ipv6 }
    get_link_speed_100bps := { retI := if c.failSpeed then -1 else 0, out := if c.failSpeed then [] else le 4 c.speed }
    get_hostname := { retN := if g.hostFull then g.host.length else (g.host.take 32).length, out := g.host }
    get_wifi_mode := { retI := if c.wifi then 0 else -1, out := if c.wifi then [c.mode] else [] }
    get_bssid := { retI := if c.failBssid then -1 else 0, out := if c.failBssid then [] else c.bssid }
    get_ssid := { retN := if c.ssidFull then c.ssid.length else (c.ssid.take 32).length, out := c.ssid }
    get_wifi_max_rate_0_5mbps := { retI := if c.failRate then -1 else 0, out := if c.failRate then [] else le 2 c.rate }
    get_wifi_rssi_dbm := { retI := if c.failRssi then -1 else 0, out := if c.failRssi then [] else [toU 8 c.rssi] } }

/-- a getter that fails leaves the zero the local was initialised with: still a value of the field's type -/
theorem fallback_lt (fail : Bool) {v b : Nat} (h : v < b) : (if fail = true then 0 else v) < b := by
  cases fail
  · exact h
  · exact Nat.lt_of_le_of_lt (Nat.zero_le v) h

/-- a scalar out-parameter: the local is zero-initialised, the port stores the object representation of `v` or, failing, nothing -/
theorem scalar_out (n v : Nat) (fail : Bool) (h : v < 256 ^ n) :
    unle (wr (le n 0) 0 ((if fail = true then [] else le n v).take n)) = if fail = true then 0 else v := by
  cases fail
  · rw [if_neg Bool.false_ne_true, if_neg Bool.false_ne_true, List.take_of_length_le (Nat.le_of_eq (le_length n v))]
    exact unle_wr_le _ n v (le_length n 0) h
  · simpa [wr_nil] using unle_le n 0 (Nat.pow_pos (by decide))

/-- an array out-parameter: the port stores `v` (of the array's size) or, failing, nothing -/
theorem array_out (init v : List Nat) (n : Nat) (fail : Bool) (hv : v.length = n) :
    rd (wr init 0 ((if fail = true then [] else v).take n)) 0 n = if fail = true then rd init 0 n else v := by
  cases fail
  · simp only [Bool.false_eq_true, List.take_of_length_le (Nat.le_of_eq hv), ↓reduceIte]; exact rd_wr_same init v n hv
  · simp only [List.take_nil, wr_nil, ↓reduceIte]

theorem tlv_length (t : Nat) (v : List Nat) : (tlv t v).length = v.length + 2 := by simp [tlv]

/-- type byte, length byte and value stored at `offset`, `offset + 1`, `offset + 2` of a buffer that holds the two header bytes leave
    the model's `tlv t v` there (the value may run over what was behind it: `drop`) -/
theorem tlv_stored (pre rest : List Nat) (w0 w1 t n : Nat) (v : List Nat) (ht : t < 256) (hn : v.length = n) (hn' : n < 256) :
    wr (wr (wr (pre ++ w0 :: w1 :: rest) (0 + pre.length + 0) (le 1 t)) (0 + pre.length + 1) (le 1 n)) (0 + pre.length + 2) v
      = pre ++ (tlv t v ++ rest.drop n) := by
  simp only [Nat.zero_add, wr_off, wr_skip_cons, Nat.reduceLeDiff, Nat.le_refl, wr_zero, le_one, Nat.mod_eq_of_lt ht, Nat.mod_eq_of_lt hn', tlv, hn,
    Nat.reduceSub, List.length_singleton, List.cons_append, List.nil_append, List.drop_succ_cons, List.drop_zero]

/-- the string writers store type, value, then the clamped length byte -/
theorem str_stored (pre rest : List Nat) (w0 w1 t n : Nat) (v : List Nat) (ht : t < 256) (hn : n < 256) :
    wr (wr (wr (pre ++ w0 :: w1 :: rest) (0 + pre.length + 0) (le 1 t)) (0 + pre.length + 2) v) (0 + pre.length + 1) (le 1 (n % 256))
      = pre ++ (t :: n :: (v ++ rest.drop v.length)) := by
  simp only [Nat.zero_add, wr_off, wr_skip_cons, Nat.reduceLeDiff, Nat.le_refl, wr_zero, le_one, Nat.mod_eq_of_lt ht, Nat.mod_eq_of_lt hn,
    Nat.reduceSub, List.length_singleton, List.cons_append, List.nil_append, List.drop_succ_cons, List.drop_zero]

section tlvs
variable (base : TW.Env) (c : Cfg) (g : Glob) (pre rest : List Nat) (w0 w1 : Nat)

theorem setHostIdTLV_eq (hc : CfgOk c) :
    (TW.setHostIdTLV (envOf c g base) (pre ++ w0 :: w1 :: rest) pre.length).buffer = pre ++ (tlvHostId c ++ rest.drop 6)
    ∧ (TW.setHostIdTLV (envOf c g base) (pre ++ w0 :: w1 :: rest) pre.length).ret = 8 := by
  refine ⟨?_, rfl⟩
  simp only [TW.setHostIdTLV, envOf, array_out _ _ 6 _ hc.mac6]
  exact tlv_stored pre rest w0 w1 1 6 _ (by decide) (ourMac_length c hc) (by decide)

theorem setCharacteristicsTLV_eq :
    (TW.setCharacteristicsTLV (envOf c g base) (pre ++ w0 :: w1 :: rest) pre.length).buffer = pre ++ (tlvCharacteristics c ++ rest.drop 4)
    ∧ (TW.setCharacteristicsTLV (envOf c g base) (pre ++ w0 :: w1 :: rest) pre.length).ret = 6 := by
  -- the flags sit in the upper 16 bits of the word
  have hv : ((c.flags % 4294967296) <<< (Int.toNat (16 : Int))) % 4294967296 = (c.flags * 65536) % u32 := by
    rw [show Int.toNat (16 : Int) = 16 from rfl, Nat.shiftLeft_eq]; exact Nat.mod_mul_mod c.flags (2 ^ 16) 4294967296
  have hlt : (c.flags * 65536) % u32 < 4294967296 := Nat.mod_lt _ (by decide)
  refine ⟨?_, rfl⟩
  simp only [TW.setCharacteristicsTLV, envOf, hv, htonl_bytes _ _ hlt, rd_be]
  exact tlv_stored pre rest w0 w1 2 4 _ (by decide) (be_length 4 _) (by decide)

theorem setPhysicalMediumTLV_eq (hr : c.iftype < u32) :
    (TW.setPhysicalMediumTLV (envOf c g base) (pre ++ w0 :: w1 :: rest) pre.length).buffer = pre ++ (tlvIfType c ++ rest.drop 4)
    ∧ (TW.setPhysicalMediumTLV (envOf c g base) (pre ++ w0 :: w1 :: rest) pre.length).ret = 6 := by
  have hlt : (if c.failIfType = true then 0 else c.iftype) < 4294967296 := fallback_lt c.failIfType hr
  refine ⟨?_, rfl⟩
  simp only [TW.setPhysicalMediumTLV, envOf, scalar_out 4 _ _ hr, htonl_bytes _ _ hlt, rd_be]
  exact tlv_stored pre rest w0 w1 3 4 _ (by decide) (be_length 4 _) (by decide)

theorem setLinkSpeedTLV_eq (hr : c.speed < u32) :
    (TW.setLinkSpeedTLV (envOf c g base) (pre ++ w0 :: w1 :: rest) pre.length).buffer = pre ++ (tlvSpeed c ++ rest.drop 4)
    ∧ (TW.setLinkSpeedTLV (envOf c g base) (pre ++ w0 :: w1 :: rest) pre.length).ret = 6 := by
  have hlt : (if c.failSpeed = true then 0 else c.speed) < 4294967296 := fallback_lt c.failSpeed hr
  refine ⟨?_, rfl⟩
  simp only [TW.setLinkSpeedTLV, envOf, scalar_out 4 _ _ hr, htonl_bytes _ _ hlt, rd_be]
  exact tlv_stored pre rest w0 w1 12 4 _ (by decide) (be_length 4 _) (by decide)

theorem setIPv4TLV_eq (hc : CfgOk c) (hb : isBytes c.ipv4) :
    (TW.setIPv4TLV (envOf c g base) (pre ++ w0 :: w1 :: rest) pre.length).buffer = pre ++ (tlvIpv4 c ++ rest.drop 4)
    ∧ (TW.setIPv4TLV (envOf c g base) (pre ++ w0 :: w1 :: rest) pre.length).ret = 6 := by
  -- the address passes through a `uint32_t` local: bytes in, value, bytes out
  have hv : le 4 (unle (wr (le 4 0) 0 ((if c.failIpv4 = true then [] else c.ipv4).take 4))) = (if c.failIpv4 = true then zeros 4 else c.ipv4) := by
    split
    · rfl
    · rw [List.take_of_length_le (Nat.le_of_eq hc.ipv4), wr_full (by rw [le_length, hc.ipv4]), ← hc.ipv4]; exact le_unle c.ipv4 hb
  refine ⟨?_, rfl⟩
  simp only [TW.setIPv4TLV, envOf, hv, rd_zero_all _ 4 (ipv4_value_length c hc)]
  exact tlv_stored pre rest w0 w1 7 4 _ (by decide) (ipv4_value_length c hc) (by decide)

theorem setIPv6TLV_eq (hc : CfgOk c) :
    (TW.setIPv6TLV (envOf c g base) (pre ++ w0 :: w1 :: rest) pre.length).buffer = pre ++ (tlvIpv6 c ++ rest.drop 16)
    ∧ (TW.setIPv6TLV (envOf c g base) (pre ++ w0 :: w1 :: rest) pre.length).ret = 18 := by
  refine ⟨?_, rfl⟩
  simp only [TW.setIPv6TLV, envOf, array_out _ _ 16 _ hc.ipv6, rd_wr_same _ _ 16 (List.length_replicate ..)]
  exact tlv_stored pre rest w0 w1 8 16 _ (by decide) (ipv6_value_length c hc) (by decide)

/-- whatever the uninitialised local array holds: all eight of its bytes are stored before it is read -/
theorem setPerfCounterTLV_stores :
    (TW.setPerfCounterTLV base (pre ++ w0 :: w1 :: rest) pre.length).buffer = pre ++ (tlvPerf ++ rest.drop 8)
    ∧ (TW.setPerfCounterTLV base (pre ++ w0 :: w1 :: rest) pre.length).ret = 10 := by
  -- eight one-byte stores at 0..7, each walking over the bytes stored before it, read back whole
  have h8 : ∀ (u : List Nat) (b0 b1 b2 b3 b4 b5 b6 b7 : Nat),
      rd (wr (wr (wr (wr (wr (wr (wr (wr u (0 + 0) [b0]) (0 + 1) [b1]) (0 + 2) [b2]) (0 + 3) [b3]) (0 + 4) [b4]) (0 + 5) [b5]) (0 + 6) [b6])
        (0 + 7) [b7]) 0 8 = [b0, b1, b2, b3, b4, b5, b6, b7] := by
    intros
    simp only [Nat.zero_add, wr_zero, wr_skip_cons, Nat.le_refl, Nat.reduceLeDiff, Nat.reduceSub, List.length_singleton, List.cons_append,
      List.nil_append, rd, List.drop_zero, List.take_succ_cons, List.take_zero]
  refine ⟨?_, rfl⟩
  simp only [TW.setPerfCounterTLV, le_one, h8]
  exact tlv_stored pre rest w0 w1 10 8 _ (by decide) rfl (by decide)

theorem setPerfCounterTLV_eq (hun : 8 ≤ (base.uninit 8).length) :
    (TW.setPerfCounterTLV base (pre ++ w0 :: w1 :: rest) pre.length).buffer = pre ++ (tlvPerf ++ rest.drop 8)
    ∧ (TW.setPerfCounterTLV base (pre ++ w0 :: w1 :: rest) pre.length).ret = 10 :=
  setPerfCounterTLV_stores base pre rest w0 w1

/-- the clamp `if (written > 32) written = 32` of the string writers -/
theorem clamp32 (x : Nat) : (if decide (x > 32) = true then 32 else x) = min x 32 := by
  simp only [decide_eq_true_eq]; split <;> omega

/-- the string TLVs for any behaviour of the getter: type, then as length byte min(returned, cap), then whatever the port stored -/
theorem setHostnameTLV_gen (env : TW.Env) :
    (TW.setHostnameTLV env (pre ++ w0 :: w1 :: rest) pre.length).buffer
      = pre ++ (15 :: (min (env.get_hostname.retN % 18446744073709551616) 32) ::
          (env.get_hostname.out.take 32 ++ rest.drop (env.get_hostname.out.take 32).length))
    ∧ (TW.setHostnameTLV env (pre ++ w0 :: w1 :: rest) pre.length).ret = 2 + min (env.get_hostname.retN % 18446744073709551616) 32 := by
  simp only [TW.setHostnameTLV, apply_ite, ite_self, clamp32]
  exact ⟨str_stored pre rest w0 w1 15 _ _ (by decide) (by omega), Nat.mod_eq_of_lt (by omega)⟩

theorem setSSIDTLV_gen (env : TW.Env) :
    (TW.setSSIDTLV env (pre ++ w0 :: w1 :: rest) pre.length).buffer
      = pre ++ (6 :: (min (env.get_ssid.retN % 18446744073709551616) 32) ::
          (env.get_ssid.out.take 32 ++ rest.drop (env.get_ssid.out.take 32).length))
    ∧ (TW.setSSIDTLV env (pre ++ w0 :: w1 :: rest) pre.length).ret = 2 + min (env.get_ssid.retN % 18446744073709551616) 32 := by
  -- the length byte is first cleared, then stored again behind the value: as if the buffer had held a zero there
  have h0 : wr (wr (pre ++ w0 :: w1 :: rest) (0 + pre.length + 0) (le 1 6)) (0 + pre.length + 1) (le 1 0)
      = wr (pre ++ w0 :: 0 :: rest) (0 + pre.length + 0) (le 1 6) := by
    simp only [Nat.zero_add, wr_off, wr_skip_cons, Nat.le_refl, wr_zero, le_one, Nat.reduceSub, Nat.reduceMod, List.length_singleton,
      List.cons_append, List.nil_append, List.drop_succ_cons, List.drop_zero]
  simp only [TW.setSSIDTLV, apply_ite, ite_self, clamp32, h0]
  exact ⟨str_stored pre rest w0 0 6 _ _ (by decide) (by omega), Nat.mod_eq_of_lt (by omega)⟩

/-- what a string getter reports (the bytes copied, or the full length - both occur in ports) clamps to the number of bytes stored -/
theorem str_min (l : List Nat) (full : Bool) (hl : l.length < 18446744073709551616) :
    min ((if full = true then l.length else (l.take 32).length) % 18446744073709551616) 32 = (l.take 32).length := by
  have ht : (l.take 32).length = min 32 l.length := List.length_take
  cases full
  · simp only [Bool.false_eq_true, ht, ↓reduceIte]
    rw [Nat.mod_eq_of_lt (by omega)]; omega
  · simp only [ht, Nat.mod_eq_of_lt hl, ↓reduceIte]; omega

theorem setHostnameTLV_eq (hl : g.host.length < 18446744073709551616) :
    (TW.setHostnameTLV (envOf c g base) (pre ++ w0 :: w1 :: rest) pre.length).buffer
      = pre ++ (tlvHostname g ++ rest.drop (g.host.take 32).length)
    ∧ (TW.setHostnameTLV (envOf c g base) (pre ++ w0 :: w1 :: rest) pre.length).ret = 2 + (g.host.take 32).length := by
  have h := setHostnameTLV_gen pre rest w0 w1 (envOf c g base)
  rw [show min ((envOf c g base).get_hostname.retN % 18446744073709551616) 32 = (g.host.take 32).length from str_min g.host g.hostFull hl] at h
  exact h

theorem setSSIDTLV_eq (hl : c.ssid.length < 18446744073709551616) :
    (TW.setSSIDTLV (envOf c g base) (pre ++ w0 :: w1 :: rest) pre.length).buffer
      = pre ++ (tlvSsid c ++ rest.drop (c.ssid.take 32).length)
    ∧ (TW.setSSIDTLV (envOf c g base) (pre ++ w0 :: w1 :: rest) pre.length).ret = 2 + (c.ssid.take 32).length := by
  have h := setSSIDTLV_gen pre rest w0 w1 (envOf c g base)
  rw [show min ((envOf c g base).get_ssid.retN % 18446744073709551616) 32 = (c.ssid.take 32).length from str_min c.ssid c.ssidFull hl] at h
  exact h

theorem setIconImageTLV_eq :
    (TW.setIconImageTLV base (pre ++ w0 :: w1 :: rest) pre.length).buffer = pre ++ (tlvIcon ++ rest)
    ∧ (TW.setIconImageTLV base (pre ++ w0 :: w1 :: rest) pre.length).ret = 2 := by
  have h := tlv_stored pre rest w0 w1 14 0 [] (by decide) rfl (by decide)
  rw [wr_nil] at h
  exact ⟨h, rfl⟩

theorem setFriendlyNameTLV_eq :
    (TW.setFriendlyNameTLV base (pre ++ w0 :: w1 :: rest) pre.length).buffer = pre ++ (tlvFriendly ++ rest)
    ∧ (TW.setFriendlyNameTLV base (pre ++ w0 :: w1 :: rest) pre.length).ret = 2 := by
  have h := tlv_stored pre rest w0 w1 17 0 [] (by decide) rfl (by decide)
  rw [wr_nil] at h
  exact ⟨h, rfl⟩

theorem setEndOfPropertyTLV_eq :
    (TW.setEndOfPropertyTLV base (pre ++ w0 :: rest) pre.length).buffer = pre ++ ([X.eop] ++ rest)
    ∧ (TW.setEndOfPropertyTLV base (pre ++ w0 :: rest) pre.length).ret = 1 := by
  refine ⟨?_, rfl⟩
  simp only [TW.setEndOfPropertyTLV, Nat.zero_add, wr_skip, Nat.le_refl, Nat.sub_self, le_one]; rfl

theorem setQosCharacteristicsTLV_eq :
    (TW.setQosCharacteristicsTLV base (pre ++ w0 :: w1 :: rest) pre.length).buffer = pre ++ (tlvQos ++ rest.drop 4)
    ∧ (TW.setQosCharacteristicsTLV base (pre ++ w0 :: w1 :: rest) pre.length).ret = 6 := by
  -- 3758096384 = (0x8000 ||| 0x2000 ||| 0x4000) <<< 16: the three QoS flags in the upper 16 bits
  have hv : ((toU 32 (((Int.toNat (((Int.toNat (32768 : Int)) ||| (Int.toNat (8192 : Int)) : Nat) : Int)) ||| (Int.toNat (16384 : Int)) : Nat) : Int))
      <<< (Int.toNat (16 : Int))) % 4294967296 = 3758096384 := by decide
  refine ⟨?_, rfl⟩
  simp only [TW.setQosCharacteristicsTLV, hv, htonl_bytes _ 3758096384 (by decide), rd_be]
  exact tlv_stored pre rest w0 w1 20 4 _ (by decide) rfl (by decide)

theorem setWirelessTLV_eq (hw : c.wifi = true) (hm : c.mode < 256) :
    (TW.setWirelessTLV (envOf c g base) (pre ++ w0 :: w1 :: rest) pre.length).buffer = pre ++ (tlvWifiMode c ++ rest.drop 1)
    ∧ (TW.setWirelessTLV (envOf c g base) (pre ++ w0 :: w1 :: rest) pre.length).ret = 3 := by
  have h1 : unle (wr (le 1 0) 0 (([c.mode] : List Nat).take 1)) = c.mode := by simp [wr, unle]
  have h2 : (toSI 32 (0 : Int) != (0 : Int)) = false := by decide
  have h3 : le 1 c.mode = [c.mode] := by rw [le_one, Nat.mod_eq_of_lt hm]
  refine ⟨?_, ?_⟩ <;>
    simp only [TW.setWirelessTLV, envOf, hw, h1, h2, h3, Bool.false_eq_true, Bool.or_self, ↓reduceIte]
  exact tlv_stored pre rest w0 w1 4 1 [c.mode] (by decide) rfl (by decide)

/-- an interface that is not wireless: the getter fails and nothing at all is written -/
theorem setWirelessTLV_wired (buf : List Nat) (off : Nat) (hw : c.wifi = false) :
    (TW.setWirelessTLV (envOf c g base) buf off).buffer = buf ∧ (TW.setWirelessTLV (envOf c g base) buf off).ret = 0 := by
  have h2 : (toSI 32 (-1 : Int) != (0 : Int)) = true := by decide
  simp [TW.setWirelessTLV, envOf, hw, h2]

theorem setBSSIDTLV_fail (buf : List Nat) (off : Nat) (hf : c.failBssid = true) :
    (TW.setBSSIDTLV (envOf c g base) buf off).buffer = buf ∧ (TW.setBSSIDTLV (envOf c g base) buf off).ret = 0 := by
  have h2 : (toSI 32 (-1 : Int) != (0 : Int)) = true := by decide
  simp [TW.setBSSIDTLV, envOf, hf, h2]

/-- whatever the uninitialised local array holds: a succeeding getter overwrites all six of its bytes, a failing one ends the call -/
theorem setBSSIDTLV_stores (hc : CfgOk c) :
    (TW.setBSSIDTLV (envOf c g base) (pre ++ w0 :: w1 :: rest) pre.length).buffer
      = (if c.failBssid then pre ++ w0 :: w1 :: rest else pre ++ (tlv X.tlvBssid c.bssid ++ rest.drop 6))
    ∧ (TW.setBSSIDTLV (envOf c g base) (pre ++ w0 :: w1 :: rest) pre.length).ret = (if c.failBssid then 0 else 8) := by
  cases hf : c.failBssid
  · have h2 : (toSI 32 (0 : Int) != (0 : Int)) = false := by decide
    have hb : rd (wr (base.uninit 6) 0 (c.bssid.take 6)) 0 6 = c.bssid := by
      rw [List.take_of_length_le (Nat.le_of_eq hc.bssid6)]; exact rd_wr_same _ _ 6 hc.bssid6
    refine ⟨?_, ?_⟩ <;>
      simp only [TW.setBSSIDTLV, envOf, hf, Bool.false_eq_true, h2, hb, Bool.or_self, ↓reduceIte]
    exact tlv_stored pre rest w0 w1 5 6 _ (by decide) hc.bssid6 (by decide)
  · exact setBSSIDTLV_fail base c g _ _ hf

theorem setBSSIDTLV_eq (hc : CfgOk c) (hun : 6 ≤ (base.uninit 6).length) :
    (TW.setBSSIDTLV (envOf c g base) (pre ++ w0 :: w1 :: rest) pre.length).buffer
      = (if c.failBssid then pre ++ w0 :: w1 :: rest else pre ++ (tlv X.tlvBssid c.bssid ++ rest.drop 6))
    ∧ (TW.setBSSIDTLV (envOf c g base) (pre ++ w0 :: w1 :: rest) pre.length).ret = (if c.failBssid then 0 else 8) :=
  setBSSIDTLV_stores base c g pre rest w0 w1 hc

theorem setWifiMaxRateTLV_eq (hr : c.rate < 65536) :
    (TW.setWifiMaxRateTLV (envOf c g base) (pre ++ w0 :: w1 :: rest) pre.length).buffer = pre ++ (tlvRate c ++ rest.drop 2)
    ∧ (TW.setWifiMaxRateTLV (envOf c g base) (pre ++ w0 :: w1 :: rest) pre.length).ret = 4 := by
  have hlt : (if c.failRate = true then 0 else c.rate) < 65536 := fallback_lt c.failRate hr
  refine ⟨?_, rfl⟩
  simp only [TW.setWifiMaxRateTLV, envOf, scalar_out 2 _ _ hr, htons_bytes _ _ hlt, rd_be]
  exact tlv_stored pre rest w0 w1 9 2 _ (by decide) (be_length 2 _) (by decide)

theorem toS8_toU8 (r : Int) (hlo : -128 ≤ r) (hhi : r ≤ 127) : toS 8 (toU 8 r) = r := by
  simp only [toS, toU, show ((2 ^ 8 : Nat) : Int) = 256 from rfl, show (2 : Nat) ^ 8 = 256 from rfl, show (2 : Nat) ^ (8 - 1) = 128 from rfl]
  split <;> omega

/-- an `int8_t` widened to `uint32_t` -/
theorem toU32_small (r : Int) (hlo : -128 ≤ r) (hhi : r ≤ 127) : toU 32 r = i8ToU32 r := by
  simp only [toU, i8ToU32, show ((2 ^ 32 : Nat) : Int) = 4294967296 from rfl]
  split <;> omega

theorem rssi_scalar (fail : Bool) (r : Int) (hlo : -128 ≤ r) (hhi : r ≤ 127) :
    toU 32 (toS 8 (unle (wr (le 1 (toU 8 (0 : Int))) 0 ((if fail = true then [] else [toU 8 r]).take 1)))) = i8ToU32 (if fail = true then 0 else r) := by
  have e : unle (wr (le 1 (toU 8 (0 : Int))) 0 ((if fail = true then [] else [toU 8 r]).take 1)) = toU 8 (if fail = true then 0 else r) := by
    cases fail
    · simp [wr, unle, le]
    · rfl
  have hlo' : -128 ≤ (if fail = true then 0 else r) := by split <;> omega
  have hhi' : (if fail = true then 0 else r) ≤ 127 := by split <;> omega
  rw [e, toS8_toU8 _ hlo' hhi', toU32_small _ hlo' hhi']

theorem setWifiRssiTLV_eq (hlo : -128 ≤ c.rssi) (hhi : c.rssi ≤ 127) :
    (TW.setWifiRssiTLV (envOf c g base) (pre ++ w0 :: w1 :: rest) pre.length).buffer = pre ++ (tlvRssi c ++ rest.drop 4)
    ∧ (TW.setWifiRssiTLV (envOf c g base) (pre ++ w0 :: w1 :: rest) pre.length).ret = 6 := by
  have hlt : i8ToU32 (if c.failRssi = true then 0 else c.rssi) < 4294967296 := by
    cases c.failRssi
    · simp only [Bool.false_eq_true, ↓reduceIte]; unfold i8ToU32; split <;> omega
    · simp only [↓reduceIte]; decide
  refine ⟨?_, rfl⟩
  simp only [TW.setWifiRssiTLV, envOf, rssi_scalar c.failRssi c.rssi hlo hhi, htonl_bytes _ _ hlt, rd_be]
  exact tlv_stored pre rest w0 w1 13 4 _ (by decide) (be_length 4 _) (by decide)

end tlvs

end LLTD.TWEq
