/-
  Each function of lltdAutomata.c as translated by tools/c2lean.py (`Generated/Translated.lean`, rewritten on every run) equals the
  model function (`Model/Automata.lean`) the property theorems are about, for every argument in the range of its C type.  A change
  to one of these C functions changes the left-hand side of its equality, which `lake build` then re-checks.

  `bandOfC` / `mapOfC` / ... read a translated struct value as the model's record.  The model adds to clock readings without
  wrap-around, so the clock is assumed more than 100000 units below 2^64 (`ClockOk`; DESIGN.md section 10).
-/
import LLTD.Generated.Translated
import LLTD.Model.Automata
import LLTD.Lemmas.XVals
import LLTD.Lemmas.Lookup
import LLTD.Lemmas.Loop
import LLTD.Lemmas.Table

namespace LLTD.TEq
open LLTD LLTD.X

def bandOfC (b : T.band_state) : Band :=
  { ni := b.Ni, r := b.r, begun := b.begun, helloTs := b.hello_timeout_ts, blockTs := b.block_timeout_ts }

def bandToC (b : Band) : T.band_state :=
  { Ni := b.ni, r := b.r, begun := b.begun, hello_timeout_ts := b.helloTs, block_timeout_ts := b.blockTs }

@[simp] theorem bandOfC_toC (b : Band) : bandOfC (bandToC b) = b := rfl
@[simp] theorem bandToC_ofC (b : T.band_state) : bandToC (bandOfC b) = b := rfl

def mapOfC (m : T.mapping_state) : MapState := { ctc := m.ctc, chargeTs := m.charge_timeout_ts, inactTs := m.inactive_timeout_ts }
def mapToC (m : MapState) : T.mapping_state := { ctc := m.ctc, charge_timeout_ts := m.chargeTs, inactive_timeout_ts := m.inactTs }

@[simp] theorem mapOfC_toC (m : MapState) : mapOfC (mapToC m) = m := rfl

/-- the readings are bijections: an equality read through `bandOfC` / `mapOfC` is an equality of translated records, whose
    fields are then projections of a literal -/
theorem eq_bandToC {x : T.band_state} {b : Band} (h : bandOfC x = b) : x = bandToC b := by subst h; rfl
theorem eq_mapToC {x : T.mapping_state} {m : MapState} (h : mapOfC x = m) : x = mapToC m := by subst h; rfl

/-- 100000 exceeds every increment the C text adds to a clock reading (1 s, 30 s, 300 ms, 1000 ms; the largest is the Hello
    interval 4*Ni*20/30 + 1 ms with Ni ≤ 10000, below 30000), so none of these sums wraps -/
def ClockOk (e : T.Env) : Prop := e.nowMs + 100000 < u64 ∧ e.nowS + 100000 < u64

theorem ClockOk.ms {e : T.Env} (he : ClockOk e) {k : Nat} (hk : k ≤ 100000) :
    (e.nowMs + k) % 18446744073709551616 = e.nowMs + k := Nat.mod_eq_of_lt (by have := he.1; unfold u64 at this; omega)
theorem ClockOk.s {e : T.Env} (he : ClockOk e) {k : Nat} (hk : k ≤ 100000) :
    (e.nowS + k) % 18446744073709551616 = e.nowS + k := Nat.mod_eq_of_lt (by have := he.2; unfold u64 at this; omega)

theorem band_init_stats_eq (e : T.Env) (b : T.band_state) (he : ClockOk e) :
    bandOfC (T.band_init_stats e b).band = bandInitStats (bandOfC b) e.nowMs := by
  simp [T.band_init_stats, bandInitStats, bandOfC, he.ms]

theorem bandNewNi_eq (r : Nat) :
    bandNewNi r = (if 10000 < 45 * (if 10000 < r * r % 18446744073709551616 then 10000 else r * r % 18446744073709551616) % 18446744073709551616
      then 10000 else 45 * (if 10000 < r * r % 18446744073709551616 then 10000 else r * r % 18446744073709551616) % 18446744073709551616 % 4294967296) := by
  simp [bandNewNi, satPowLoop, u64, u32]

theorem bandNewNi_le (r : Nat) : bandNewNi r ≤ 10000 := by
  rw [bandNewNi_eq]
  generalize (if 10000 < r * r % 18446744073709551616 then 10000 else r * r % 18446744073709551616) = q
  by_cases h : 10000 < 45 * q % 18446744073709551616
  · rw [if_pos h]; exact Nat.le_refl _
  · rw [if_neg h]; exact Nat.le_trans (Nat.mod_le _ _) (Nat.le_of_not_lt h)

theorem loop12 {σ : Type} (f : Nat → σ → σ) (s : σ) : CSem.loopRange 1 2 f s = f 1 s := by
  rw [CSem.loopRange_succ _ _ _ _ (by omega), CSem.loopRange_empty _ _ _ _ (by omega)]

theorem band_update_stats_eq (e : T.Env) (b : T.band_state) (he : ClockOk e) :
    bandOfC (T.band_update_stats e b).band = bandUpdateStats (bandOfC b) e.nowMs := by
  unfold T.band_update_stats bandUpdateStats
  simp only [bandBlockTime_val, loop12, bandNewNi_eq, T.band_update_stats.loop1]
  generalize hq : b.r * b.r % 18446744073709551616 = q
  by_cases hr : b.r > 0 <;> by_cases hb : b.begun = true <;> by_cases hq1 : 10000 < q <;>
    simp [bandOfC, hr, hb, he.ms, hq, hq1]

/-- fields of a `band_state` are values of their C types; `Ni` is inside the range C13 proves invariant -/
def BandOk (b : T.band_state) : Prop := b.Ni ≤ 10000 ∧ b.r < u32

theorem band_choose_hello_time_eq (e : T.Env) (b : T.band_state) (he : ClockOk e) (hb : BandOk b) :
    bandOfC (T.band_choose_hello_time e b).band = bandChooseHelloTime (bandOfC b) e.nowMs ∧
    (T.band_choose_hello_time e b).ret = (bandChooseHelloTime (bandOfC b) e.nowMs).helloTs := by
  obtain ⟨hn, _⟩ := hb
  have h4 : 4 * b.Ni * 20 ≤ 800000 := Nat.mul_le_mul_right 20 (Nat.mul_le_mul_left 4 hn)
  have e1 : 4 * b.Ni % 18446744073709551616 = 4 * b.Ni :=
    Nat.mod_eq_of_lt (Nat.lt_of_le_of_lt (Nat.mul_le_mul_left 4 hn) (by decide))
  have e2 : 4 * b.Ni * 20 % 18446744073709551616 = 4 * b.Ni * 20 := Nat.mod_eq_of_lt (Nat.lt_of_le_of_lt h4 (by decide))
  -- numerator BAND_TXC * Ni * 20 = 4 * Ni * 20, denominator BAND_GAMMA * 3 = 30, floor BAND_MUL_FRAME(1) = (1 * 20) / 3 = 6 ms
  have e3 : CSem.toU 64 (Int.tdiv (1 * 20) 3) = 6 := by decide
  have hq : 4 * b.Ni * 20 / 30 < 30000 := Nat.div_lt_of_lt_mul (Nat.lt_of_le_of_lt h4 (by decide))
  unfold T.band_choose_hello_time bandChooseHelloTime bandInterval
  simp only [bandTxc_val, bandGamma_val, bandMulFrame1_val, e1, e2, e3, bandOfC]
  generalize 4 * b.Ni * 20 / 30 = q at hq ⊢
  have e4 : (q + 1) % 18446744073709551616 = q + 1 := Nat.mod_eq_of_lt (Nat.lt_trans (Nat.succ_lt_succ hq) (by decide))
  have e5 := he.ms (Nat.le_trans (Nat.succ_le_of_lt hq) (by decide : 30000 ≤ 100000))
  have e6 := he.ms (Nat.le_trans (Nat.le_of_lt hq) (by decide : 30000 ≤ 100000))
  -- exact division (`hm`) or one more; then the 6 ms floor on the result
  by_cases hm : 4 * b.Ni * 20 % 30 = 0
  · by_cases hq6 : q < 6 <;> simp [hm, hq6, e6, he.ms]
  · by_cases hq5 : q + 1 < 6 <;> simp [hm, hq5, e4, e5, he.ms]

theorem band_do_hello_eq (e : T.Env) (b : T.band_state) (he : ClockOk e) (hb : BandOk b) :
    bandOfC (T.band_do_hello e b).band = bandDoHello (bandOfC b) e.nowMs := by
  simp only [T.band_do_hello, bandDoHello, eq_bandToC (band_choose_hello_time_eq e b he hb).1]; rfl

theorem band_on_hello_received_eq (e : T.Env) (b : T.band_state) :
    bandOfC (T.band_on_hello_received e b).band = bandOnHelloReceived (bandOfC b) := by
  unfold T.band_on_hello_received bandOnHelloReceived
  by_cases hb : b.begun = true <;> by_cases hr : 10 ≤ (b.r + 1) % 4294967296 <;> simp [bandOfC, hb, hr, u32]

theorem bandUpdateStats_ni (b : Band) (now : Nat) :
    (bandUpdateStats b now).ni = if b.r > 0 ∧ b.begun = true then bandNewNi b.r else b.ni := by
  unfold bandUpdateStats; split <;> rfl

/-- `BandOk` is an invariant of the translated update: the new count saturates at NMAX = 10000 -/
theorem band_update_ok (e : T.Env) (b : T.band_state) (he : ClockOk e) (hb : BandOk b) : BandOk (T.band_update_stats e b).band := by
  rw [eq_bandToC (band_update_stats_eq e b he)]
  refine ⟨?_, (by decide : 0 < u32)⟩
  show (bandUpdateStats (bandOfC b) e.nowMs).ni ≤ 10000
  rw [bandUpdateStats_ni]
  by_cases hc : (bandOfC b).r > 0 ∧ (bandOfC b).begun = true
  · rw [if_pos hc]; exact bandNewNi_le _
  · rw [if_neg hc]; exact hb.1

/-- band_choose_hello_time moves the Hello deadline only: `BandOk` reads `Ni` and `r` -/
theorem band_choose_ok (e : T.Env) (b : T.band_state) (he : ClockOk e) (hb : BandOk b) : BandOk (T.band_choose_hello_time e b).band := by
  rw [eq_bandToC (band_choose_hello_time_eq e b he hb).1]; exact hb

theorem block_end (e : T.Env) (b : T.band_state) (he : ClockOk e) (hb : BandOk b) :
    bandOfC (T.band_choose_hello_time e (T.band_update_stats e b).band).band =
      bandChooseHelloTime (bandUpdateStats (bandOfC b) e.nowMs) e.nowMs := by
  rw [(band_choose_hello_time_eq e _ he (band_update_ok e b he hb)).1, band_update_stats_eq e b he]

theorem mapping_reset_charge_eq (e : T.Env) (m : T.mapping_state) :
    mapOfC (T.mapping_reset_charge e m).mstate = mapResetCharge (mapOfC m) := by
  simp [T.mapping_reset_charge, mapResetCharge, mapOfC]

theorem mapping_on_charge_eq (e : T.Env) (m : T.mapping_state) (he : ClockOk e) :
    mapOfC (T.mapping_on_charge e m).mstate = mapOnCharge (mapOfC m) e.nowS := by
  simp [T.mapping_on_charge, mapOnCharge, mapOfC, he.s, u8]

theorem mapping_check_charge_timeout_eq (e : T.Env) (m : T.mapping_state) :
    mapOfC (T.mapping_check_charge_timeout e m).mstate = (mapCheckCharge (mapOfC m) e.nowS).1 ∧
    (T.mapping_check_charge_timeout e m).ret = (mapCheckCharge (mapOfC m) e.nowS).2 := by
  unfold T.mapping_check_charge_timeout mapCheckCharge
  by_cases h0 : m.charge_timeout_ts = 0 <;> by_cases h1 : m.charge_timeout_ts ≤ e.nowS <;> simp [mapOfC, h0, h1]

theorem mapping_check_inactive_timeout_eq (e : T.Env) (m : T.mapping_state) :
    (T.mapping_check_inactive_timeout e m).mstate = m ∧
    (T.mapping_check_inactive_timeout e m).ret = mapCheckInactive (mapOfC m) e.nowS := by
  unfold T.mapping_check_inactive_timeout mapCheckInactive
  by_cases h0 : m.inactive_timeout_ts = 0 <;> by_cases h1 : m.inactive_timeout_ts ≤ e.nowS <;> simp [mapOfC, h0, h1]

theorem mapping_reset_inactive_timeout_eq (e : T.Env) (m : T.mapping_state) (he : ClockOk e) :
    mapOfC (T.mapping_reset_inactive_timeout e m).mstate = mapResetInactive (mapOfC m) e.nowS := by
  simp [T.mapping_reset_inactive_timeout, mapResetInactive, mapOfC, he.s]

def entryOfC (x : T.session_entry) : Entry :=
  { mac := x.mapper_mac, gen := x.generation, seq := x.seq_number, state := x.state, complete := x.complete,
    valid := x.valid, last := x.last_activity_ts, created := x.created_ts }

def tableOfC (t : T.session_table) : Table :=
  { entries := t.entries.map entryOfC, count := t.count, allComplete := t.all_complete }

theorem session_table_is_empty_eq (e : T.Env) (t : T.session_table) :
    (T.session_table_is_empty e t).ret = (tableOfC t).isEmpty ∧ (T.session_table_is_empty e t).table = t := by
  exact ⟨TWEq.int_beq t.count 0, rfl⟩

theorem session_table_all_complete_eq (e : T.Env) (t : T.session_table) :
    (T.session_table_all_complete e t).ret = (tableOfC t).allComplete ∧ (T.session_table_all_complete e t).table = t := by
  simp [T.session_table_all_complete, tableOfC]

theorem session_table_clear_eq (e : T.Env) (t : T.session_table) :
    tableOfC (T.session_table_clear e t).table = (tableOfC t).clear := by
  simp [T.session_table_clear, Table.clear, Table.create, tableOfC, entryOfC, T.session_entry.zero, Entry.zero]

def rowOfC (t : T.transition) : Nat × Nat × Int := (t.from_, t.to_, t.with_)
def rowsOfC (a : T.automata) : TransTable := (a.transitions_table.take a.transitions_no).map rowOfC
def timeoutsOfC (a : T.automata) : List Nat := a.states_table.map (fun s => s.timeout.toNat)
def fsmOfC (a : T.automata) : Fsm := { state := a.current_state, lastTs := a.last_ts }

theorem lookup_walk (tbl : TransTable) (cur : Nat) (inp : Int) : (lookup tbl cur inp).1 = walk cur inp cur tbl := by
  unfold lookup walk
  suffices h : ∀ (acc : Nat × Bool), (tbl.foldl (fun acc r => if cur = r.1 ∧ r.2.2 = inp then (r.2.1, true) else acc) acc).1 =
      tbl.foldl (fun acc r => if cur = r.1 ∧ r.2.2 = inp then r.2.1 else acc) acc.1 from h (cur, false)
  induction tbl with
  | nil => intro acc; rfl
  | cons r rest ih =>
    intro acc; simp only [List.foldl_cons]
    rw [ih]; congr 1; split <;> rfl

/-- `timeout` is a `short` (lltdAutomata.h), taken non-negative so that the `(uint64_t)` cast is its value; `last_ts` is a `uint64_t` -/
structure AutOk (a : T.automata) : Prop where
  hno : a.transitions_no ≤ a.transitions_table.length
  hto : ∀ s ∈ a.states_table, 0 ≤ s.timeout ∧ s.timeout < 32768
  hts : a.last_ts < u64

theorem tmo_eq (a : T.automata) (h : AutOk a) (k : Nat) :
    ((a.states_table.getD k T.state.zero).timeout ≠ 0 ↔ timeoutOf (timeoutsOfC a) k ≠ 0) ∧
    CSem.toU 64 (a.states_table.getD k T.state.zero).timeout = timeoutOf (timeoutsOfC a) k := by
  unfold timeoutOf timeoutsOfC
  by_cases hk : k < a.states_table.length
  · have hm := h.hto (a.states_table[k]) (List.getElem_mem hk)
    simp only [List.getD, List.getElem?_eq_getElem hk, Option.getD_some, List.getElem?_map, Option.map_some]
    refine ⟨by omega, ?_⟩
    unfold CSem.toU
    have : (a.states_table[k].timeout % ((2 ^ 64 : Nat) : Int)) = a.states_table[k].timeout := Int.emod_eq_of_lt hm.1 (by omega)
    rw [this]
  · have hk' : a.states_table.length ≤ k := by omega
    simp [List.getD, List.getElem?_eq_none hk', T.state.zero, CSem.toU]

theorem loop_mapping (e : T.Env) (a : T.automata) (inp : Int) (n : Nat) (hn : n ≤ a.transitions_table.length)
    (s : T.switch_state_mapping.S) (h1 : s.autom = a) (h2 : s.input = inp) (h3 : s.done = false) (h4 : s.brk = false) :
    let s' := CSem.loopRange 0 n (T.switch_state_mapping.loop1 e) s
    s'.autom = a ∧ s'.input = inp ∧ s'.done = false ∧ s'.brk = false ∧ s'.timeout = s.timeout ∧ s'.now = s.now ∧
    s'.diverged = s.diverged ∧
    s'.new_state = walk a.current_state inp s.new_state ((a.transitions_table.take n).map rowOfC) := by
  have := loopRange_walk rowOfC T.transition.zero (fun t : T.switch_state_mapping.S => t.autom = a ∧ t.input = inp ∧ t.done = false ∧ t.brk = false ∧
      t.timeout = s.timeout ∧ t.now = s.now ∧ t.diverged = s.diverged) (·.new_state) a.transitions_table a.current_state inp
    (T.switch_state_mapping.loop1 e) n hn s ⟨h1, h2, h3, h4, rfl, rfl, rfl⟩
    (fun i t _ ⟨hautom, hinput, hdone, hbrk, htimeout, hnow, hdiv⟩ => by
      simp only [T.switch_state_mapping.loop1, rowOfC, hautom, hinput, hdone, hbrk, Bool.or_self, Bool.false_eq_true,
        Bool.and_eq_true, beq_iff_eq, Int.natCast_inj, ↓reduceIte]
      split
      next h => exact ⟨⟨rfl, rfl, rfl, rfl, htimeout, hnow, hdiv⟩, (if_pos h).symm⟩
      next h => exact ⟨⟨hautom, hinput, hdone, hbrk, htimeout, hnow, hdiv⟩, (if_neg h).symm⟩)
  simpa only [and_assoc] using this

theorem diff64_eq (now last : Nat) (hl : last < u64) : (now + 18446744073709551616 - last) % 18446744073709551616 = diff64 now last := by
  unfold diff64 u64; unfold u64 at hl; rw [Nat.mod_eq_of_lt hl]

/-- tables of an automaton are not touched by a step -/
def sameTables (a b : T.automata) : Prop :=
  b.transitions_table = a.transitions_table ∧ b.transitions_no = a.transitions_no ∧ b.states_table = a.states_table

def expiredP (e : T.Env) (a : T.automata) : Prop :=
  timeoutOf (timeoutsOfC a) a.current_state ≠ 0 ∧ diff64 e.nowS a.last_ts > timeoutOf (timeoutsOfC a) a.current_state

instance (e : T.Env) (a : T.automata) : Decidable (expiredP e a) := by unfold expiredP; exact inferInstance

theorem rowsOfC_same (a b : T.automata) (h : sameTables a b) : rowsOfC b = rowsOfC a ∧ timeoutsOfC b = timeoutsOfC a := by
  obtain ⟨h1, h2, h3⟩ := h
  simp [rowsOfC, timeoutsOfC, h1, h2, h3]

/-- the time-out test as the C text computes it (`short` time-out cast to `uint64_t`, 64-bit modular difference) -/
def expiredB (e : T.Env) (a : T.automata) : Bool :=
  ((a.states_table.getD a.current_state T.state.zero).timeout != 0) &&
    decide ((e.nowS + 18446744073709551616 - a.last_ts) % 18446744073709551616 >
      CSem.toU 64 (a.states_table.getD a.current_state T.state.zero).timeout)

theorem expiredB_iff (e : T.Env) (a : T.automata) (h : AutOk a) : expiredB e a = true ↔ expiredP e a := by
  obtain ⟨tm1, tm2⟩ := tmo_eq a h a.current_state
  simp only [expiredB, expiredP, Bool.and_eq_true, bne_iff_ne, decide_eq_true_eq, diff64_eq _ _ h.hts, tm1, tm2]

def next (e : T.Env) (a : T.automata) (i : Int) : T.automata :=
  { a with current_state := walk a.current_state i a.current_state (rowsOfC a), last_ts := e.nowS }

/-- `if (cur != new || ..) cur = new;` is `cur = new;` -/
theorem set_cur_ite (a : T.automata) (w : Nat) (b : Bool) :
    (if ((a.current_state : Int) != (w : Int) || b) = true then { a with current_state := w } else a) =
      { a with current_state := w } := by
  by_cases h : ((a.current_state : Int) != (w : Int) || b) = true
  · rw [if_pos h]
  · rw [if_neg h]
    have : a.current_state = w := by
      simp only [Bool.or_eq_true, not_or, bne_iff_ne, ne_eq, Decidable.not_not] at h
      exact_mod_cast h.1
    subst this; rfl

/-- `F fuel a inp` is (record left behind, `diverged`).  Whatever obeys the recursion that the C text of `switch_state_mapping` /
    `switch_state_session` spells out - time-out test, table walk, stamp, and after a time-out the self-call with -1 - is the
    model's `stepTimedAux`, leaves the tables alone and does not run out of fuel 2: the record the self-call sees was stamped
    `now`, so it has not expired. -/
theorem timed_switch (e : T.Env) (hnow : e.nowS < u64) (F : Nat → T.automata → Int → T.automata × Bool)
    (h0 : ∀ a i, F 0 a i = (a, true))
    (hS : ∀ k a i, a.transitions_no ≤ a.transitions_table.length →
      F (k + 1) a i = if expiredB e a then F k (next e a (-1)) (-1) else (next e a i, false)) :
    ∀ (fuel : Nat) (a : T.automata) (inp : Int), AutOk a →
      fsmOfC (F fuel a inp).1 = stepTimedAux (rowsOfC a) (timeoutsOfC a) fuel (fsmOfC a) inp e.nowS ∧
      sameTables a (F fuel a inp).1 ∧ ((if expiredP e a then 2 else 1) ≤ fuel → (F fuel a inp).2 = false) := by
  intro fuel
  induction fuel with
  | zero => intro a inp _; rw [h0]; exact ⟨rfl, ⟨rfl, rfl, rfl⟩, by intro h; split at h <;> omega⟩
  | succ k ih =>
    intro a inp hok
    rw [hS k a inp hok.hno, stepTimedAux_succ, lookup_walk, lookup_walk]
    have hP : expiredP e a ↔ timeoutOf (timeoutsOfC a) (fsmOfC a).state ≠ 0 ∧
        diff64 e.nowS (fsmOfC a).lastTs > timeoutOf (timeoutsOfC a) (fsmOfC a).state := Iff.rfl
    by_cases hexp : expiredP e a
    · obtain ⟨i1, i2, i3⟩ := ih (next e a (-1)) (-1) ⟨hok.hno, hok.hto, hnow⟩
      have hne : ¬ expiredP e (next e a (-1)) := by
        unfold expiredP next; simp only [diff64_self]; omega
      rw [if_neg hne] at i3
      rw [if_pos ((expiredB_iff e a hok).2 hexp), if_pos (hP.1 hexp)]
      exact ⟨i1, i2, fun h => i3 (by rw [if_pos hexp] at h; omega)⟩
    · rw [if_neg (fun h => hexp ((expiredB_iff e a hok).1 h)), if_neg (fun h => hexp (hP.2 h))]
      exact ⟨rfl, ⟨rfl, rfl, rfl⟩, fun _ => rfl⟩

/-- one call of switch_state_mapping, on the record alone: what `timed_switch` asks for -/
theorem switch_state_mapping_succ (e : T.Env) (fuel : Nat) (a : T.automata) (inp : Int)
    (hno : a.transitions_no ≤ a.transitions_table.length) :
    ((T.switch_state_mapping (fuel + 1) e a inp).autom, (T.switch_state_mapping (fuel + 1) e a inp).diverged) =
      if expiredB e a then ((T.switch_state_mapping fuel e (next e a (-1)) (-1)).autom,
                            (T.switch_state_mapping fuel e (next e a (-1)) (-1)).diverged)
      else (next e a inp, false) := by
  -- named before unfolding, or `unfold` opens the self-call too
  generalize hr : T.switch_state_mapping fuel e (next e a (-1)) (-1) = r
  unfold T.switch_state_mapping
  -- the table walk, from the state the text has built before it: without (`tm = false`) and after a time-out
  have walked := fun (i : Int) (tm : Bool) => loop_mapping e a i a.transitions_no hno
    { autom := a, input := i, new_state := a.current_state, current_state_idx2 := a.current_state, timeout := tm, now := e.nowS,
      diff := (e.nowS + 18446744073709551616 - a.last_ts) % 18446744073709551616, find := -1 } rfl rfl rfl rfl
  cases hx : expiredB e a
  · obtain ⟨l1, l2, l3, _, l5, l6, l7, l8⟩ := walked inp false
    unfold expiredB at hx
    -- `simp` does not take a field out of `if c then { s with .. } else s`: `apply_ite` does, for the fields read after the walk
    simp only [hx, apply_ite T.switch_state_mapping.S.autom, apply_ite T.switch_state_mapping.S.input,
      apply_ite T.switch_state_mapping.S.timeout, apply_ite T.switch_state_mapping.S.now, apply_ite T.switch_state_mapping.S.diverged,
      apply_ite T.switch_state_mapping.S.done, apply_ite T.switch_state_mapping.S.brk, ite_self, Int.toNat_natCast, Bool.false_eq_true,
      l1, l2, l3, l5, l6, l7, l8, Bool.or_false, set_cur_ite, ↓reduceIte]
    rfl
  · obtain ⟨l1, l2, l3, _, l5, l6, l7, l8⟩ := walked (-1) true
    unfold expiredB at hx
    simp only [hx, ite_self, Int.toNat_natCast, l1, l2, l3, l5, l6, l7, l8, Bool.or_true, Bool.false_or, ↓reduceIte]
    subst hr; rfl

theorem switch_state_mapping_aux (e : T.Env) (hnow : e.nowS < u64) :
    ∀ (fuel : Nat) (a : T.automata) (inp : Int), AutOk a →
      fsmOfC (T.switch_state_mapping fuel e a inp).autom =
        stepTimedAux (rowsOfC a) (timeoutsOfC a) fuel (fsmOfC a) inp e.nowS ∧
      sameTables a (T.switch_state_mapping fuel e a inp).autom ∧
      ((if expiredP e a then 2 else 1) ≤ fuel → (T.switch_state_mapping fuel e a inp).diverged = false) :=
  timed_switch e hnow (fun k a i => ((T.switch_state_mapping k e a i).autom, (T.switch_state_mapping k e a i).diverged))
    (fun _ _ => rfl) (switch_state_mapping_succ e)

/- The session automaton: the two C functions differ in their names only; so do these three texts. -/

theorem loop_session (e : T.Env) (a : T.automata) (inp : Int) (n : Nat) (hn : n ≤ a.transitions_table.length)
    (s : T.switch_state_session.S) (h1 : s.autom = a) (h2 : s.input = inp) (h3 : s.done = false) (h4 : s.brk = false) :
    let s' := CSem.loopRange 0 n (T.switch_state_session.loop1 e) s
    s'.autom = a ∧ s'.input = inp ∧ s'.done = false ∧ s'.brk = false ∧ s'.timeout = s.timeout ∧ s'.now = s.now ∧
    s'.diverged = s.diverged ∧
    s'.new_state = walk a.current_state inp s.new_state ((a.transitions_table.take n).map rowOfC) := by
  have := loopRange_walk rowOfC T.transition.zero (fun t : T.switch_state_session.S => t.autom = a ∧ t.input = inp ∧ t.done = false ∧ t.brk = false ∧
      t.timeout = s.timeout ∧ t.now = s.now ∧ t.diverged = s.diverged) (·.new_state) a.transitions_table a.current_state inp
    (T.switch_state_session.loop1 e) n hn s ⟨h1, h2, h3, h4, rfl, rfl, rfl⟩
    (fun i t _ ⟨hautom, hinput, hdone, hbrk, htimeout, hnow, hdiv⟩ => by
      simp only [T.switch_state_session.loop1, rowOfC, hautom, hinput, hdone, hbrk, Bool.or_self, Bool.false_eq_true,
        Bool.and_eq_true, beq_iff_eq, Int.natCast_inj, ↓reduceIte]
      split
      next h => exact ⟨⟨rfl, rfl, rfl, rfl, htimeout, hnow, hdiv⟩, (if_pos h).symm⟩
      next h => exact ⟨⟨hautom, hinput, hdone, hbrk, htimeout, hnow, hdiv⟩, (if_neg h).symm⟩)
  simpa only [and_assoc] using this

theorem switch_state_session_succ (e : T.Env) (fuel : Nat) (a : T.automata) (inp : Int)
    (hno : a.transitions_no ≤ a.transitions_table.length) :
    ((T.switch_state_session (fuel + 1) e a inp).autom, (T.switch_state_session (fuel + 1) e a inp).diverged) =
      if expiredB e a then ((T.switch_state_session fuel e (next e a (-1)) (-1)).autom,
                            (T.switch_state_session fuel e (next e a (-1)) (-1)).diverged)
      else (next e a inp, false) := by
  generalize hr : T.switch_state_session fuel e (next e a (-1)) (-1) = r
  unfold T.switch_state_session
  -- the table walk, from the state the text has built before it: without (`tm = false`) and after a time-out
  have walked := fun (i : Int) (tm : Bool) => loop_session e a i a.transitions_no hno
    { autom := a, input := i, new_state := a.current_state, current_state_idx2 := a.current_state, timeout := tm, now := e.nowS,
      diff := (e.nowS + 18446744073709551616 - a.last_ts) % 18446744073709551616, find := -1 } rfl rfl rfl rfl
  cases hx : expiredB e a
  · obtain ⟨l1, l2, l3, _, l5, l6, l7, l8⟩ := walked inp false
    unfold expiredB at hx
    simp only [hx, apply_ite T.switch_state_session.S.autom, apply_ite T.switch_state_session.S.input,
      apply_ite T.switch_state_session.S.timeout, apply_ite T.switch_state_session.S.now, apply_ite T.switch_state_session.S.diverged,
      apply_ite T.switch_state_session.S.done, apply_ite T.switch_state_session.S.brk, ite_self, Int.toNat_natCast, Bool.false_eq_true,
      l1, l2, l3, l5, l6, l7, l8, Bool.or_false, set_cur_ite, ↓reduceIte]
    rfl
  · obtain ⟨l1, l2, l3, _, l5, l6, l7, l8⟩ := walked (-1) true
    unfold expiredB at hx
    simp only [hx, ite_self, Int.toNat_natCast, l1, l2, l3, l5, l6, l7, l8, Bool.or_true, Bool.false_or, ↓reduceIte]
    subst hr; rfl

theorem switch_state_session_aux (e : T.Env) (hnow : e.nowS < u64) :
    ∀ (fuel : Nat) (a : T.automata) (inp : Int), AutOk a →
      fsmOfC (T.switch_state_session fuel e a inp).autom =
        stepTimedAux (rowsOfC a) (timeoutsOfC a) fuel (fsmOfC a) inp e.nowS ∧
      sameTables a (T.switch_state_session fuel e a inp).autom ∧
      ((if expiredP e a then 2 else 1) ≤ fuel → (T.switch_state_session fuel e a inp).diverged = false) :=
  timed_switch e hnow (fun k a i => ((T.switch_state_session k e a i).autom, (T.switch_state_session k e a i).diverged))
    (fun _ _ => rfl) (switch_state_session_succ e)

theorem loop_enumeration (e : T.Env) (a : T.automata) (inp : Int) (n : Nat) (hn : n ≤ a.transitions_table.length)
    (s : T.switch_state_enumeration.S) (h1 : s.autom = a) (h2 : s.input = inp) (h3 : s.done = false) (h4 : s.brk = false) :
    let s' := CSem.loopRange 0 n (T.switch_state_enumeration.loop1 e) s
    s'.autom = a ∧ s'.input = inp ∧ s'.done = false ∧ s'.brk = false ∧
    s'.new_state = walk a.current_state inp s.new_state ((a.transitions_table.take n).map rowOfC) := by
  have := loopRange_walk rowOfC T.transition.zero (fun t : T.switch_state_enumeration.S => t.autom = a ∧ t.input = inp ∧ t.done = false ∧ t.brk = false)
    (·.new_state) a.transitions_table a.current_state inp (T.switch_state_enumeration.loop1 e) n hn s ⟨h1, h2, h3, h4⟩
    (fun i t _ ⟨hautom, hinput, hdone, hbrk⟩ => by
      simp only [T.switch_state_enumeration.loop1, rowOfC, hautom, hinput, hdone, hbrk, Bool.or_self, Bool.false_eq_true,
        Bool.and_eq_true, beq_iff_eq, Int.natCast_inj, ↓reduceIte]
      split
      next h => exact ⟨⟨rfl, rfl, rfl, rfl⟩, (if_pos h).symm⟩
      next h => exact ⟨⟨hautom, hinput, hdone, hbrk⟩, (if_neg h).symm⟩)
  simpa only [and_assoc] using this

theorem switch_state_enumeration_eq (e : T.Env) (a : T.automata) (inp : Int) (hno : a.transitions_no ≤ a.transitions_table.length) :
    fsmOfC (T.switch_state_enumeration e a inp).autom = stepPlain (rowsOfC a) (fsmOfC a) inp e.nowS ∧
    sameTables a (T.switch_state_enumeration e a inp).autom := by
  simp only [fsmOfC]
  unfold T.switch_state_enumeration stepPlain
  simp only [Int.toNat_natCast]
  have hloop := loop_enumeration e a inp a.transitions_no hno
    { autom := a, input := inp, new_state := a.current_state, current_state_idx2 := a.current_state, find := -1 } rfl rfl rfl rfl
  simp only at hloop
  obtain ⟨l1, l2, l3, l4, l8⟩ := hloop
  have l8' : (CSem.loopRange 0 a.transitions_no (T.switch_state_enumeration.loop1 e)
    { autom := a, input := inp, new_state := a.current_state, current_state_idx2 := a.current_state, find := -1 }).new_state =
      walk a.current_state inp a.current_state (rowsOfC a) := l8
  simp only [l1, l2, l3, l8']
  split
  · exact ⟨by simp only [lookup_walk], rfl, rfl, rfl⟩
  · rename_i hc
    have h' : walk a.current_state inp a.current_state (rowsOfC a) = a.current_state := by
      simp only [Bool.or_eq_true, not_or, bne_iff_ne, ne_eq, Decidable.not_not] at hc
      exact_mod_cast hc.1
    exact ⟨by simp only [lookup_walk, h'], rfl, rfl, rfl⟩

/- The C functions as the ports call them: with the extracted tables, on fuel 2. -/

/-- `states_table` has MAX_STATES slots, the unused ones zero: what matters is the time-out each state index yields -/
def tosEq (t1 t2 : List Nat) : Prop := ∀ k, timeoutOf t1 k = timeoutOf t2 k

theorem stepTimedAux_congr {tbl : TransTable} {t1 t2 : List Nat} (h : tosEq t1 t2) :
    ∀ (fuel : Nat) (f : Fsm) (i : Int) (now : Nat), stepTimedAux tbl t1 fuel f i now = stepTimedAux tbl t2 fuel f i now := by
  intro fuel
  induction fuel with
  | zero => intros; rfl
  | succ n ih => intro f i now; unfold stepTimedAux; simp only [h f.state, ih]

/-- an automaton record whose tables are the ones `init_automata_mapping` builds (the extract probe prints them) -/
def IsMapping (a : T.automata) : Prop := rowsOfC a = X.mappingTable ∧ tosEq (timeoutsOfC a) X.mappingTimeouts
def IsSession (a : T.automata) : Prop := rowsOfC a = X.sessionTable ∧ tosEq (timeoutsOfC a) X.sessionTimeouts
def IsEnumeration (a : T.automata) : Prop := rowsOfC a = X.enumerationTable

theorem switch_state_mapping_eq (e : T.Env) (hnow : e.nowS < u64) (a : T.automata) (inp : Int) (hok : AutOk a) (hm : IsMapping a) :
    fsmOfC (T.switch_state_mapping 2 e a inp).autom = stepMapping (fsmOfC a) inp e.nowS ∧
    (T.switch_state_mapping 2 e a inp).diverged = false ∧ sameTables a (T.switch_state_mapping 2 e a inp).autom := by
  obtain ⟨h1, h2, h3⟩ := switch_state_mapping_aux e hnow 2 a inp hok
  refine ⟨?_, h3 (by split <;> omega), h2⟩
  rw [h1, hm.1, stepTimedAux_congr hm.2]; rfl

theorem switch_state_session_eq (e : T.Env) (hnow : e.nowS < u64) (a : T.automata) (inp : Int) (hok : AutOk a) (hm : IsSession a) :
    fsmOfC (T.switch_state_session 2 e a inp).autom = stepSession (fsmOfC a) inp e.nowS ∧
    (T.switch_state_session 2 e a inp).diverged = false ∧ sameTables a (T.switch_state_session 2 e a inp).autom := by
  obtain ⟨h1, h2, h3⟩ := switch_state_session_aux e hnow 2 a inp hok
  refine ⟨?_, h3 (by split <;> omega), h2⟩
  rw [h1, hm.1, stepTimedAux_congr hm.2]; rfl

theorem switch_state_enumeration_eq' (e : T.Env) (a : T.automata) (inp : Int) (hno : a.transitions_no ≤ a.transitions_table.length)
    (hm : IsEnumeration a) : fsmOfC (T.switch_state_enumeration e a inp).autom = stepEnumeration (fsmOfC a) inp e.nowS := by
  rw [(switch_state_enumeration_eq e a inp hno).1, hm]; rfl

/-- the record `init_automata_*` leaves behind, rebuilt from the extracted tables: it satisfies the hypotheses above
    (128 = MAX_TRANSITIONS, 5 = MAX_STATES) -/
def autOfX (rows : TransTable) (tos : List Nat) (st ts : Nat) : T.automata :=
  { last_ts := ts, current_state := st,
    transitions_table := rows.map (fun r => { from_ := r.1, to_ := r.2.1, with_ := r.2.2 }) ++ List.replicate (128 - rows.length) T.transition.zero,
    transitions_no := rows.length,
    states_table := tos.map (fun t => { timeout := (t : Int) }) ++ List.replicate (5 - tos.length) T.state.zero,
    states_no := tos.length }

theorem tosEq_pad (tos : List Nat) (n : Nat) : tosEq (tos ++ List.replicate n 0) tos := by
  intro k; unfold timeoutOf
  by_cases hk : k < tos.length
  · simp [List.getD, List.getElem?_append_left hk]
  · have hk' : tos.length ≤ k := by omega
    simp only [List.getD, List.getElem?_append_right hk', List.getElem?_eq_none hk', Option.getD_none]
    by_cases h2 : k - tos.length < n <;> simp [h2]

example : IsMapping (autOfX X.mappingTable X.mappingTimeouts 1 7) ∧ IsSession (autOfX X.sessionTable X.sessionTimeouts 2 7) ∧
    IsEnumeration (autOfX X.enumerationTable X.enumerationTimeouts 1 7) := by
  refine ⟨⟨by decide, ?_⟩, ⟨by decide, ?_⟩, by unfold IsEnumeration; decide⟩
  · have : timeoutsOfC (autOfX X.mappingTable X.mappingTimeouts 1 7) = X.mappingTimeouts ++ List.replicate 2 0 := by decide
    rw [this]; exact tosEq_pad _ _
  · have : timeoutsOfC (autOfX X.sessionTable X.sessionTimeouts 2 7) = X.sessionTimeouts ++ List.replicate 1 0 := by decide
    rw [this]; exact tosEq_pad _ _

example : AutOk (autOfX X.mappingTable X.mappingTimeouts 1 7) := ⟨by decide +kernel, by decide +kernel, by decide⟩

/- The session table: a function returning a pointer into the table is translated to return the slot index (`ret_idx`). -/

theorem mac_equal_eq (e : T.Env) (a b : List Nat) (ha : a.length = 6) (hb : b.length = 6) :
    (T.mac_equal e a b).ret = (a == b) := by
  obtain ⟨a0, a1, a2, a3, a4, a5, rfl⟩ := six_exact a ha
  obtain ⟨b0, b1, b2, b3, b4, b5, rfl⟩ := six_exact b hb
  simp only [T.mac_equal, List.getD_cons_zero, List.getD_cons_succ, TWEq.int_beq]
  rw [Bool.eq_iff_iff]
  simp [and_assoc]

theorem mac_copy_eq (e : T.Env) (d s : List Nat) (hd : d.length = 6) (hs : s.length = 6) :
    (T.mac_copy e d s).dst = s := by
  obtain ⟨d0, d1, d2, d3, d4, d5, rfl⟩ := six_exact d hd
  obtain ⟨s0, s1, s2, s3, s4, s5, rfl⟩ := six_exact s hs
  simp [T.mac_copy]

/-- 16 = SESSION_TABLE_MAX_ENTRIES; `mapper_mac` is a `uint8_t[6]` -/
structure TblOk (t : T.session_table) : Prop where
  hlen : t.entries.length = 16
  hmac : ∀ x ∈ t.entries, x.mapper_mac.length = 6

/-- the C condition `entry->valid && mac_equal(entry->mapper_mac, mac) && entry->generation == generation` -/
def cMatch (e : T.Env) (mac : List Nat) (gen : Nat) (x : T.session_entry) : Bool :=
  (x.valid && (T.mac_equal e x.mapper_mac mac).ret) && ((x.generation : Int) == (gen : Int))

theorem cMatch_eq (e : T.Env) (mac : List Nat) (gen : Nat) (x : T.session_entry) (hx : x.mapper_mac.length = 6) (hm : mac.length = 6) :
    cMatch e mac gen x = (entryOfC x).matches mac gen := by
  unfold cMatch Entry.matches
  rw [mac_equal_eq e _ _ hx hm, TWEq.int_beq]; rfl

theorem getD_zero_mac (t : T.session_table) (h : TblOk t) (k : Nat) : (t.entries.getD k T.session_entry.zero).mapper_mac.length = 6 := by
  by_cases hk : k < t.entries.length
  · simp only [List.getD, List.getElem?_eq_getElem hk, Option.getD_some]; exact h.hmac _ (List.getElem_mem hk)
  · have hk' : t.entries.length ≤ k := by omega
    simp [List.getD, List.getElem?_eq_none hk', T.session_entry.zero]

theorem getD_map {α β : Type} (f : α → β) (l : List α) (k : Nat) (d : α) : (l.map f).getD k (f d) = f (l.getD k d) := by
  simp only [List.getD, List.getElem?_map]; cases l[k]? <;> rfl

def findQ (e : T.Env) (t : T.session_table) (mac : List Nat) (gen : Nat) (k : Nat) : Bool :=
  cMatch e mac gen (t.entries.getD k T.session_entry.zero)

/-- the first slot whose entry, read as the model's, has `p`: the guarded `findIdx` of `Table.find` / `Table.firstFree` -/
theorem firstBelow_entries (p : Entry → Bool) (t : T.session_table) (hlen : t.entries.length = 16) :
    firstBelow (fun k => p (entryOfC (t.entries.getD k T.session_entry.zero))) 16 =
      (if (tableOfC t).entries.findIdx p < (tableOfC t).entries.length then some ((tableOfC t).entries.findIdx p) else none) := by
  have h16 : (t.entries.map entryOfC).length = 16 := by simp [hlen]
  have hfull := firstBelow_full p (t.entries.map entryOfC) (entryOfC T.session_entry.zero)
  simp only [getD_map, h16] at hfull
  simp only [hfull, tableOfC, h16]

theorem findQ_eq (e : T.Env) (t : T.session_table) (mac : List Nat) (gen : Nat) (ht : TblOk t) (hm : mac.length = 6) :
    findQ e t mac gen = fun k => Entry.matches (entryOfC (t.entries.getD k T.session_entry.zero)) mac gen :=
  funext fun k => cMatch_eq e mac gen _ (getD_zero_mac t ht k) hm

theorem findQ_full (e : T.Env) (t : T.session_table) (mac : List Nat) (gen : Nat) (ht : TblOk t) (hm : mac.length = 6) :
    firstBelow (findQ e t mac gen) 16 = (tableOfC t).find mac gen := by
  rw [findQ_eq e t mac gen ht hm]; exact firstBelow_entries (fun x => x.matches mac gen) t ht.hlen

theorem session_table_find_eq (e : T.Env) (t : T.session_table) (mac : List Nat) (gen seq : Nat) (ht : TblOk t) (hm : mac.length = 6) :
    (T.session_table_find e t mac gen seq).ret_idx = (tableOfC t).find mac gen ∧ (T.session_table_find e t mac gen seq).table = t := by
  have hL := loopRange_first (findQ e t mac gen)
    (fun o (s : T.session_table_find.S) => s.table = t ∧ s.mapper_mac = mac ∧ s.generation = gen ∧ s.brk = false ∧
      s.ret_idx = o ∧ s.done = o.isSome)
    (T.session_table_find.loop1 e) 16 { table := t, mapper_mac := mac, generation := gen, seq := seq } ⟨rfl, rfl, rfl, rfl, rfl, rfl⟩
    (fun i j s ⟨htab, hmac, hgen, hbrk, hret, hdone⟩ => by
      have : T.session_table_find.loop1 e i s = s := by
        simp only [T.session_table_find.loop1, hdone, Option.isSome_some, Bool.true_or, ↓reduceIte]
      rw [this]; exact ⟨htab, hmac, hgen, hbrk, hret, hdone⟩)
    (fun i s _ ⟨htab, hmac, hgen, hbrk, hret, hdone⟩ => by
      have hc : cMatch e mac gen (t.entries.getD i T.session_entry.zero) = findQ e t mac gen i := rfl
      cases hq : findQ e t mac gen i <;>
        simp only [T.session_table_find.loop1, ← cMatch.eq_1, hdone, hbrk, Option.isSome_none, Bool.or_self, Bool.false_eq_true,
          htab, hmac, hgen, hc, hq, hret, Option.isSome_some, and_self, ↓reduceIte])
  rw [findQ_full e t mac gen ht hm] at hL
  unfold T.session_table_find
  dsimp only
  generalize CSem.loopRange 0 16 (T.session_table_find.loop1 e) { table := t, mapper_mac := mac, generation := gen, seq := seq } = L at hL ⊢
  obtain ⟨ltab, _, _, lbrk, lret, ldone⟩ := hL
  cases hf : (tableOfC t).find mac gen <;> rw [hf] at lret ldone <;> simp [ltab, lret, ldone]

def incQ (t : T.session_table) (k : Nat) : Bool :=
  (t.entries.getD k T.session_entry.zero).valid && !(t.entries.getD k T.session_entry.zero).complete

/-- the model asks that every slot is invalid or complete; the C loop leaves at the first valid slot that is not (`incQ`) -/
theorem all_eq_incQ (t : T.session_table) (ht : t.entries.length = 16) :
    (t.entries.map entryOfC).all (fun e => !e.valid || e.complete) = (firstBelow (incQ t) 16).isNone := by
  have h := firstBelow_entries (fun e => e.valid && !e.complete) t ht
  rw [show incQ t = fun k => (fun e : Entry => e.valid && !e.complete) (entryOfC (t.entries.getD k T.session_entry.zero)) from rfl, h,
    ← Option.not_isSome, findIdx_isSome, tableOfC, List.all_eq_not_any_not]
  simp

theorem session_table_update_complete_status_eq (e : T.Env) (t : T.session_table) (ht : t.entries.length = 16) :
    tableOfC (T.session_table_update_complete_status e t).table = (tableOfC t).updateStatus := by
  have hL := loopRange_first (incQ t)
    (fun o (s : T.session_table_update_complete_status.S) => s.table = t ∧ s.done = false ∧ s.brk = o.isSome ∧
      s.all_complete = o.isNone ∧ (o.isSome = true → s.any_valid = true))
    (T.session_table_update_complete_status.loop1 e) 16 { table := t, all_complete := true, any_valid := false }
    ⟨rfl, rfl, rfl, rfl, fun h => nomatch h⟩
    (fun i j s ⟨htab, hdone, hbrk, hall, hany⟩ => by
      have : T.session_table_update_complete_status.loop1 e i s = s := by
        simp only [T.session_table_update_complete_status.loop1, hbrk, Option.isSome_some, Bool.or_true, ↓reduceIte]
      rw [this]; exact ⟨htab, hdone, hbrk, hall, hany⟩)
    (fun i s _ ⟨htab, hdone, hbrk, hall, _⟩ => by
      have hq : incQ t i = ((t.entries.getD i T.session_entry.zero).valid && !(t.entries.getD i T.session_entry.zero).complete) := rfl
      simp only [T.session_table_update_complete_status.loop1, hdone, hbrk, Option.isSome_none, Bool.or_self, Bool.false_eq_true, htab, ↓reduceIte]
      generalize t.entries.getD i T.session_entry.zero = row at hq ⊢
      cases hv : row.valid <;> cases hc : row.complete <;> simp [hq, hv, hc, hall])
  unfold T.session_table_update_complete_status
  dsimp only
  generalize CSem.loopRange 0 16 (T.session_table_update_complete_status.loop1 e) { table := t, all_complete := true, any_valid := false } = L at hL ⊢
  obtain ⟨ltab, ldone, _, lall, lany⟩ := hL
  simp only [ldone, Bool.or_self, Bool.false_eq_true, tableOfC, Table.updateStatus, ltab, Table.mk.injEq, true_and,
    all_eq_incQ t ht, lall, ↓reduceIte]
  cases hfb : firstBelow (incQ t) 16 with
  | none => simp
  | some j => rw [hfb] at lany; simp [lany rfl]

/-- the translated slots after a loop has rewritten, by `g`, the slot it left at -/
def setAt (g : T.session_entry → T.session_entry) (l : List T.session_entry) : Option Nat → List T.session_entry
  | none => l
  | some j => l.set j (g (l.getD j T.session_entry.zero))

/-- a translated loop that leaves at the first slot whose reading has `p`, and rewrites that slot by `g`, has done the model's
    `updateFirst p f`; it stopped where the guarded `findIdx` of `Table.find` / `Table.firstFree` points, and it hit a slot
    exactly if `any p`.  session_table_add (both branches) and session_table_remove differ in `p`, `f`, `g` only. -/
theorem first_slot (p : Entry → Bool) (f : Entry → Entry) (g : T.session_entry → T.session_entry)
    (hfg : ∀ x, entryOfC (g x) = f (entryOfC x)) (t : T.session_table) (hlen : t.entries.length = 16) :
    let o := firstBelow (fun k => p (entryOfC (t.entries.getD k T.session_entry.zero))) 16
    o = (if (tableOfC t).entries.findIdx p < (tableOfC t).entries.length then some ((tableOfC t).entries.findIdx p) else none) ∧
    (tableOfC t).entries.any p = o.isSome ∧ (∀ j, o = some j → j < t.entries.length) ∧
    (setAt g t.entries o).map entryOfC = updateFirst p f (tableOfC t).entries := by
  intro o
  have ho : o = _ := firstBelow_entries p t hlen
  refine ⟨ho, by rw [ho]; exact (findIdx_isSome p _).symm, ?_⟩
  by_cases hlt : (tableOfC t).entries.findIdx p < (tableOfC t).entries.length
  · rw [ho, if_pos hlt]
    refine ⟨fun j hj => by cases hj; simpa [tableOfC] using hlt, ?_⟩
    rw [updateFirst_set p f (entryOfC T.session_entry.zero) _ hlt]
    simp only [setAt, tableOfC, List.map_set, getD_map, hfg]
  · rw [ho, if_neg hlt]
    exact ⟨nofun, (updateFirst_of_any_false (p := p) f (l := (tableOfC t).entries) (by rw [← findIdx_isSome, if_neg hlt]; rfl)).symm⟩

/-- `count--` on a `uint8_t`, guarded by `count > 0`, is the model's `count - 1` -/
theorem dec_u8 (c : Nat) (hc : c < 256) : (if c > 0 then (c + 255) % 256 else c) = if c > 0 then c - 1 else c := by
  split <;> omega

theorem session_table_remove_eq (e : T.Env) (t : T.session_table) (mac : List Nat) (gen : Nat) (ht : TblOk t) (hm : mac.length = 6)
    (hc : t.count < 256) :
    tableOfC (T.session_table_remove e t mac gen).table = (tableOfC t).remove mac gen := by
  have hL := loopRange_first (findQ e t mac gen)
    (fun o (s : T.session_table_remove.S) => s.done = false ∧ s.mapper_mac = mac ∧ s.generation = gen ∧ s.brk = o.isSome ∧
      s.table = { t with entries := setAt (fun x => { x with valid := false }) t.entries o,
                         count := if o.isSome = true ∧ t.count > 0 then (t.count + 255) % 256 else t.count })
    (T.session_table_remove.loop1 e) 16 { table := t, mapper_mac := mac, generation := gen } ⟨rfl, rfl, rfl, rfl, rfl⟩
    (fun i j s ⟨hdone, hmac, hgen, hbrk, htab⟩ => by
      have : T.session_table_remove.loop1 e i s = s := by
        simp only [T.session_table_remove.loop1, hbrk, Option.isSome_some, Bool.or_true, ↓reduceIte]
      rw [this]; exact ⟨hdone, hmac, hgen, hbrk, htab⟩)
    (fun i s _ ⟨hdone, hmac, hgen, hbrk, htab⟩ => by
      have htab' : s.table = t := htab
      have hcq : cMatch e mac gen (t.entries.getD i T.session_entry.zero) = findQ e t mac gen i := rfl
      have hcz : decide ((t.count : Int) > 0) = decide (t.count > 0) := by simp
      cases hq : findQ e t mac gen i <;> by_cases hz : t.count > 0 <;>
        simp only [T.session_table_remove.loop1, ← cMatch.eq_1, hdone, hbrk, Option.isSome_none, Bool.or_self, Bool.false_eq_true,
          hmac, hgen, htab', hcq, hq, Option.isSome_some, setAt, hcz, decide_eq_true_eq, hz, and_self, false_and,
          and_false, ↓reduceIte])
  unfold T.session_table_remove
  dsimp only
  generalize CSem.loopRange 0 16 (T.session_table_remove.loop1 e) { table := t, mapper_mac := mac, generation := gen } = L at hL ⊢
  obtain ⟨hdone, -, -, -, htab⟩ := hL
  simp only [hdone, Bool.or_self, Bool.false_eq_true, ↓reduceIte]
  rw [findQ_eq e t mac gen ht hm] at htab
  obtain ⟨-, hany, -, hmap⟩ := first_slot (fun x => x.matches mac gen) (fun x => { x with valid := false })
    (fun x => { x with valid := false }) (fun _ => rfl) t ht.hlen
  generalize firstBelow _ 16 = o at htab hany hmap
  have hlen : L.table.entries.length = 16 := by rw [htab]; cases o <;> simp [setAt, ht.hlen]
  rw [session_table_update_complete_status_eq e L.table hlen, htab]
  unfold Table.remove
  simp only [tableOfC] at hany hmap ⊢
  simp only [hany, ← hmap]
  cases o with
  | none => rfl
  | some j =>
    simp only [Option.isSome_some, true_and, dec_u8 t.count hc, ↓reduceIte]; rfl

def freeQ (t : T.session_table) (k : Nat) : Bool := !(t.entries.getD k T.session_entry.zero).valid

/-- the entry session_table_add fills a free slot with; 2 = sess_discover_noack -/
def newC (e : T.Env) (mac : List Nat) (gen seq : Nat) : T.session_entry :=
  { mapper_mac := mac, generation := gen, seq_number := seq, state := 2, complete := false, valid := true,
    last_activity_ts := e.nowS, created_ts := e.nowS }

theorem getD_set_self {α : Type} (l : List α) (i : Nat) (a d : α) :
    (l.set i a).getD i d = if i < l.length then a else d := by
  by_cases h : i < l.length
  · simp [List.getD, h]
  · simp [List.getD, h]

theorem add_loop1_hit (e : T.Env) (i : Nat) (s : T.session_table_add.S) (hd : s.done = false) (hb : s.brk = false)
    (hfree : (s.table.entries.getD i T.session_entry.zero).valid = false) (hi : i < s.table.entries.length)
    (hcopy : (T.mac_copy e (s.table.entries.getD i T.session_entry.zero).mapper_mac s.mapper_mac).dst = s.mapper_mac) :
    T.session_table_add.loop1 e i s =
      { s with entry_idx2 := i,
               table := { entries := s.table.entries.set i (newC e s.mapper_mac s.generation s.seq), count := (s.table.count + 1) % 256, all_complete := false },
               ret_idx := some i, done := true } := by
  unfold T.session_table_add.loop1
  simp only [hd, hb, Bool.or_self, Bool.false_eq_true, hfree, Bool.not_false, hcopy, ↓reduceIte]
  simp only [getD_set_self, List.set_set, hi, newC, ↓reduceIte]

theorem add_loop1_miss (e : T.Env) (i : Nat) (s : T.session_table_add.S) (hd : s.done = false) (hb : s.brk = false)
    (hfree : (s.table.entries.getD i T.session_entry.zero).valid = true) :
    T.session_table_add.loop1 e i s = { s with entry_idx2 := i } := by
  unfold T.session_table_add.loop1
  simp only [hd, hb, Bool.or_self, Bool.false_eq_true, hfree, Bool.not_true, ↓reduceIte]

theorem add_loop1_skip (e : T.Env) (i : Nat) (s : T.session_table_add.S) (hd : s.done = true) :
    T.session_table_add.loop1 e i s = s := by
  unfold T.session_table_add.loop1
  simp only [hd, Bool.true_or, ↓reduceIte]

theorem session_table_add_eq (e : T.Env) (t : T.session_table) (mac : List Nat) (gen seq : Nat) (ht : TblOk t) (hm : mac.length = 6) :
    tableOfC (T.session_table_add e t mac gen seq).table = ((tableOfC t).add mac gen seq e.nowS).1 ∧
    (T.session_table_add e t mac gen seq).ret_idx = ((tableOfC t).add mac gen seq e.nowS).2 := by
  obtain ⟨f1, f2⟩ := session_table_find_eq e t mac gen seq ht hm
  -- the slot with this key, updated in place
  obtain ⟨hfind, hany, hlt, hmap⟩ := first_slot (fun x => x.matches mac gen) (fun x => { x with seq := seq, last := e.nowS })
    (fun x => { x with seq_number := seq, last_activity_ts := e.nowS }) (fun _ => rfl) t ht.hlen
  have hf : (tableOfC t).find mac gen = _ := hfind.symm
  -- the case is fixed before the function is opened: its two arms are then never looked at together
  generalize firstBelow _ 16 = o at hf hany hlt hmap
  unfold T.session_table_add Table.add
  cases o with
  | some j =>
    simp only [f1, f2, hf, hany, ← hmap, Option.isSome_some, Bool.true_or, Option.getD_some, getD_set_self, hlt j rfl, List.set_set,
      setAt, ↓reduceIte]
    exact ⟨rfl, trivial⟩
  | none =>
    -- the first free slot, filled
    obtain ⟨hfree, hany', -, hmap'⟩ := first_slot (fun x => !x.valid) (fun _ => newEntry mac gen seq e.nowS)
      (fun _ => newC e mac gen seq) (fun _ => rfl) t ht.hlen
    simp only [f1, f2, hf, hany, Option.isSome_none, Bool.false_eq_true, Bool.or_self, show (tableOfC t).firstFree = _ from hfree.symm,
      hany', ← hmap', ↓reduceIte]
    have hL := loopRange_first (freeQ t)
      (fun o (s : T.session_table_add.S) => s.brk = false ∧ s.mapper_mac = mac ∧ s.generation = gen ∧ s.seq = seq ∧
        s.done = o.isSome ∧ s.ret_idx = o ∧
        s.table = if o.isSome then { entries := setAt (fun _ => newC e mac gen seq) t.entries o, count := (t.count + 1) % 256,
                                     all_complete := false } else t)
      (T.session_table_add.loop1 e) 16 { table := t, mapper_mac := mac, generation := gen, seq := seq } ⟨rfl, rfl, rfl, rfl, rfl, rfl, rfl⟩
      (fun i j s ⟨hbrk, hmac, hgen, hseq, hdone, hret, htab⟩ => by
        rw [add_loop1_skip e i s hdone]; exact ⟨hbrk, hmac, hgen, hseq, hdone, hret, htab⟩)
      (fun i s hi ⟨hbrk, hmac, hgen, hseq, hdone, hret, htab⟩ => by
        have htab' : s.table = t := htab
        have hv : (s.table.entries.getD i T.session_entry.zero).valid = !freeQ t i := by rw [htab', freeQ, Bool.not_not]
        cases hq : freeQ t i
        · rw [hq] at hv
          rw [add_loop1_miss e i s hdone hbrk hv]
          exact ⟨hbrk, hmac, hgen, hseq, hdone, hret, htab⟩
        · rw [hq] at hv
          rw [add_loop1_hit e i s hdone hbrk hv (by rw [htab', ht.hlen]; exact hi)
            (by rw [htab', hmac]; exact mac_copy_eq e _ mac (getD_zero_mac t ht i) hm)]
          simp only [Option.isSome_some, setAt, hbrk, hmac, hgen, hseq, htab', and_self, ↓reduceIte])
    generalize CSem.loopRange 0 16 (T.session_table_add.loop1 e) { table := t, mapper_mac := mac, generation := gen, seq := seq } = L at hL ⊢
    obtain ⟨-, -, -, -, hdone, hret, htab⟩ := hL
    rw [show freeQ t = fun k => !(entryOfC (t.entries.getD k T.session_entry.zero)).valid from rfl] at hdone hret htab
    generalize firstBelow _ 16 = o' at hdone hret htab
    cases o' <;> simp [hdone, hret, htab, tableOfC, u8]

end LLTD.TEq
