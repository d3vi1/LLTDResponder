/-
  From one frame to every history of received buffer images: the observable trace of one interface, and the one
  induction over it.  A history theorem is `run_all` at the invariant its step needs: nothing, the record invariant,
  the mapper refinement, or (fault-free platform) the refinement of the whole specification state (`sim_step`).
-/
import LLTD.Lemmas.Refine
import LLTD.Lemmas.Sends

namespace LLTD.C05
open LLTD LLTD.Spec

/-- the observable trace of one interface over a history of buffer images -/
def runObs (c : Cfg) (g : Glob) : World → St → List (List Nat) → List RxObs
  | _, _, [] => []
  | w, st, img :: rest =>
    obsOf c g img (parseFrameSt c g w st img).fx :: runObs c g (parseFrameSt c g w st img).w (parseFrameSt c g w st img).st rest

/-- the same with the interface's attributes and the process-wide data possibly different at every frame (address changes are
    excluded by the theorems' hypotheses: the specification is stated for one station) -/
def runObsV : World → St → List (Cfg × Glob × List Nat) → List RxObs
  | _, _, [] => []
  | w, st, (c, g, img) :: rest =>
    obsOf c g img (parseFrameSt c g w st img).fx :: runObsV (parseFrameSt c g w st img).w (parseFrameSt c g w st img).st rest

end LLTD.C05

namespace LLTD
open LLTD.Spec

/-- constant attributes are a special case of varying ones: every `history` follows from its `history_varying` -/
theorem runObs_eq_runObsV (c : Cfg) (g : Glob) (imgs : List (List Nat)) :
    ∀ (w : World) (st : St), C05.runObs c g w st imgs = C05.runObsV w st (imgs.map fun img => (c, g, img)) := by
  induction imgs with
  | nil => intro _ _; rfl
  | cons img rest ih => intro w st; simp only [C05.runObs, List.map_cons, C05.runObsV, ih]

theorem runObs_frame (c : Cfg) (g : Glob) (imgs : List (List Nat)) :
    ∀ (w : World) (st : St), (C05.runObs c g w st imgs).map RxObs.frame = imgs := by
  induction imgs with
  | nil => intro _ _; rfl
  | cons img rest ih => intro w st; simp only [C05.runObs, List.map_cons, ih, obsOf_frame]

theorem specStatesDom_snd (own : List Nat) (dom : Nat) :
    ∀ (t : List RxObs) (s : SpecSt), (specStatesDom own dom s t).map Prod.snd = t := by
  intro t
  induction t with
  | nil => intro _; rfl
  | cons r rest ih => intro s; simp only [specStatesDom, List.map_cons, ih]

/-- THE induction.  `I` relates platform, record and specification state and is kept by a frame; `Q` is what every item of the
    history satisfies; one step yields the clause `P` of the reaction and `I` again.  `I` is a means: the conclusion speaks of the
    trace only (for the state a history ends in: `C19.history_bound`, `C19H.history_spec`, inductions over `C19.runSt`). -/
theorem run_all (own : List Nat) (dom : Nat) (I : World → St → SpecSt → Prop) (Q : Cfg × Glob × List Nat → Prop)
    (P : SpecSt → RxObs → Bool)
    (hstep : ∀ c g w st img s, Q (c, g, img) → I w st s →
      P s (obsOf c g img (parseFrameSt c g w st img).fx) = true ∧
      I (parseFrameSt c g w st img).w (parseFrameSt c g w st img).st
        (specStep own dom g s img (reportedOf (obsOf c g img (parseFrameSt c g w st img).fx).fx))) :
    ∀ (items : List (Cfg × Glob × List Nat)) (w : World) (st : St) (s : SpecSt), (∀ it ∈ items, Q it) → I w st s →
      (specStatesDom own dom s (C05.runObsV w st items)).all (fun p => P p.1 p.2) = true := by
  intro items
  induction items with
  | nil => intro _ _ _ _ _; rfl
  | cons it rest ih =>
    intro w st s hQ hI
    obtain ⟨c, g, img⟩ := it
    obtain ⟨hP, hI'⟩ := hstep c g w st img s (hQ _ (List.mem_cons_self ..)) hI
    simp only [C05.runObsV, specStatesDom, List.all_cons, Bool.and_eq_true]
    exact ⟨hP, ih _ _ _ (fun i hi => hQ i (List.mem_cons_of_mem _ hi)) hI'⟩

/-- the same for a clause of the reaction alone (`holdsC02`, `holdsC03`, `holdsC04`) -/
theorem run_all' (I : World → St → Prop) (Q : Cfg × Glob × List Nat → Prop) (P : RxObs → Bool)
    (hstep : ∀ c g w st img, Q (c, g, img) → I w st →
      P (obsOf c g img (parseFrameSt c g w st img).fx) = true ∧ I (parseFrameSt c g w st img).w (parseFrameSt c g w st img).st)
    (items : List (Cfg × Glob × List Nat)) (w : World) (st : St) (hQ : ∀ it ∈ items, Q it) (hI : I w st) :
    (C05.runObsV w st items).all P = true := by
  rw [← specStatesDom_snd [] 0 (C05.runObsV w st items) {}, List.all_map]
  exact run_all [] 0 (fun w st _ => I w st) Q (fun _ => P) (fun c g w st img _ => hstep c g w st img) items w st {} hQ hI

/-- what a history item must satisfy: a valid attribute record of station `own` with working MTU / address getters, a buffer image -/
def ItemOk (own : List Nat) (it : Cfg × Glob × List Nat) : Prop :=
  CfgOk it.1 ∧ it.1.failMtu = false ∧ it.1.failMac = false ∧ it.1.mac = own ∧ ImgOk it.2.2

theorem ItemOk.cfg {own it} (h : ItemOk own it) : CfgOk it.1 := h.1
theorem ItemOk.mtu {own it} (h : ItemOk own it) : it.1.failMtu = false := h.2.1
theorem ItemOk.macOk {own it} (h : ItemOk own it) : it.1.failMac = false := h.2.2.1
theorem ItemOk.own {own it} (h : ItemOk own it) : it.1.mac = own := h.2.2.2.1
theorem ItemOk.img {own it} (h : ItemOk own it) : ImgOk it.2.2 := h.2.2.2.2

theorem itemOk_const (c : Cfg) (g : Glob) (hc : CfgOk c) (hm : c.failMtu = false) (hmac : c.failMac = false) (imgs : List (List Nat))
    (himgs : ∀ img ∈ imgs, ImgOk img) : ∀ it ∈ imgs.map fun img => (c, g, img), ItemOk c.mac it :=
  List.forall_mem_map.mpr fun img h => ⟨hc, hm, hmac, rfl, himgs img h⟩

/-- `run_all` at the mapper refinement, on every platform whose behaviour `I` a frame keeps -/
theorem rel_historyV (own : List Nat) (dom : Nat) (I : World → Prop) (P : SpecSt → RxObs → Bool)
    (hI : ∀ c g w st img, I w → I (parseFrameSt c g w st img).w)
    (hP : ∀ c g w st img s, CfgOk c → I w → Rel st s.mapper → P s (obsOf c g img (parseFrameSt c g w st img).fx) = true)
    (items : List (Cfg × Glob × List Nat)) (hitems : ∀ it ∈ items, CfgOk it.1 ∧ it.1.failMtu = false ∧ ImgOk it.2.2)
    (w : World) (st : St) (s : SpecSt) (hw : I w) (hr : Rel st s.mapper) :
    (specStatesDom own dom s (C05.runObsV w st items)).all (fun p => P p.1 p.2) = true :=
  run_all own dom (fun w st s => I w ∧ Rel st s.mapper) _ P
    (fun c g w st img s ⟨hc, hm, him⟩ ⟨hw, hr⟩ => ⟨hP c g w st img s hc hw hr, hI c g w st img hw,
      rel_step own dom _ c g w st img s hc hm him.len hr⟩) items w st s hitems ⟨hw, hr⟩

theorem sim_step (own : List Nat) (dom : Nat) (hdom : dom ≤ 1024) (c : Cfg) (g : Glob) (w : World) (st : St) (img : List Nat) (s : SpecSt)
    (hq : ItemOk own (c, g, img)) (h : NoFault w ∧ St.Inv st ∧ Ref st s) :
    NoFault (parseFrameSt c g w st img).w ∧ St.Inv (parseFrameSt c g w st img).st ∧
      Ref (parseFrameSt c g w st img).st
        (specStep own dom g s img (reportedOf (obsOf c g img (parseFrameSt c g w st img).fx).fx)) := by
  obtain ⟨hw, hi, hr⟩ := h
  exact ⟨nf_of_sched hw (parseFrameSt_sched c g w st img), parseFrameSt_inv c g w st img hi hq.img,
    hq.own ▸ ref_step c g w st img s dom hq.cfg hq.mtu hq.macOk hw hi hq.img hdom hr⟩

/-- `run_all` at `NoFault ∧ St.Inv ∧ Ref` (`sim_step`): a fault-free platform, the attributes other than the station's own
    address changing freely from frame to frame -/
theorem ref_historyV (own : List Nat) (dom : Nat) (P : SpecSt → RxObs → Bool) (Q : Cfg × Glob × List Nat → Prop)
    (hdom : dom ≤ 1024) (hQ : ∀ it, Q it → ItemOk own it)
    (hstep : ∀ (c : Cfg) (g : Glob) (w : World) (st : St) (img : List Nat) (s : SpecSt), Q (c, g, img) → NoFault w → St.Inv st → Ref st s →
      P s (obsOf c g img (parseFrameSt c g w st img).fx) = true)
    (items : List (Cfg × Glob × List Nat)) (w : World) (st : St) (s : SpecSt) (hitems : ∀ it ∈ items, Q it) (hw : NoFault w)
    (hi : St.Inv st) (hr : Ref st s) :
    (specStatesDom own dom s (C05.runObsV w st items)).all (fun p => P p.1 p.2) = true :=
  run_all own dom (fun w st s => NoFault w ∧ St.Inv st ∧ Ref st s) Q P
    (fun c g w st img s hq ⟨hw, hi, hr⟩ => ⟨hstep c g w st img s hq hw hi hr, sim_step own dom hdom c g w st img s (hQ _ hq) ⟨hw, hi, hr⟩⟩)
    items w st s hitems ⟨hw, hi, hr⟩

/-- `ref_historyV` from a freshly started responder, in C07's domain, the step being handed the item's hypotheses one by one -/
theorem fresh_historyV (own : List Nat) (P : SpecSt → RxObs → Bool) (Q : Cfg × Glob × List Nat → Prop) (hQ : ∀ it, Q it → ItemOk own it)
    (hstep : ∀ (c : Cfg) (g : Glob) (w : World) (st : St) (img : List Nat) (s : SpecSt), Q (c, g, img) → CfgOk c → c.failMtu = false →
      c.failMac = false → NoFault w → St.Inv st → ImgOk img → Ref st s → P s (obsOf c g img (parseFrameSt c g w st img).fx) = true)
    (items : List (Cfg × Glob × List Nat)) (hitems : ∀ it ∈ items, Q it) (w : World) (hw : NoFault w) :
    (specStates own {} (C05.runObsV w {} items)).all (fun p => P p.1 p.2) = true :=
  ref_historyV own 300 P Q (by decide) hQ
    (fun c g w st img s hq hw hi hr => hstep c g w st img s hq (hQ _ hq).cfg (hQ _ hq).mtu (hQ _ hq).macOk hw hi (hQ _ hq).img hr)
    items w {} {} hitems hw init_inv ref_init

end LLTD
