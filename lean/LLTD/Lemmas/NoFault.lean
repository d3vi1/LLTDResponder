/- The fault schedule of a world is changed by no port operation, hence by no handler: a world without scheduled faults
   stays one through every frame. -/
import LLTD.Lemmas.Frame

namespace LLTD

structure NoFault (w : World) : Prop where
  m  : w.failMalloc = []
  s  : w.failSend = []
  ma : w.failMallocAll = false
  sa : w.failSendAll = false

/-- no ALLOCATION fault is scheduled; transmits may be refused in any pattern -/
structure NoMFault (w : World) : Prop where
  m  : w.failMalloc = []
  ma : w.failMallocAll = false

theorem NoFault.noM {w : World} (h : NoFault w) : NoMFault w := ⟨h.m, h.ma⟩

def World.sameSched (a b : World) : Prop :=
  b.failMalloc = a.failMalloc ∧ b.failSend = a.failSend ∧ b.failMallocAll = a.failMallocAll ∧ b.failSendAll = a.failSendAll

@[simp] theorem sched_refl (w : World) : w.sameSched w := ⟨rfl, rfl, rfl, rfl⟩

theorem nf_of_sched {a b : World} (h : NoFault a) : a.sameSched b → NoFault b
  | ⟨hm, hs, hma, hsa⟩ => ⟨hm.trans h.m, hs.trans h.s, hma.trans h.ma, hsa.trans h.sa⟩

theorem nmf_of_sched {a b : World} (h : NoMFault a) : a.sameSched b → NoMFault b
  | ⟨hm, _, hma, _⟩ => ⟨hm.trans h.m, hma.trans h.ma⟩

theorem malloc_nmf (w : World) (n : Nat) (h : NoMFault w) : (w.malloc n).2 = true := by
  unfold World.malloc
  simp [h.ma, h.m]

theorem malloc_nf (w : World) (n : Nat) (h : NoFault w) : (w.malloc n).2 = true := malloc_nmf w n h.noM

theorem send_nf (w : World) (h : NoFault w) : w.send.2 = true := by
  unfold World.send
  simp [h.sa, h.s]

/-! Every port operation, and so every handler, is transparent for `sameSched`: as simp lemmas these strip the operations
    off the right-hand world until `sched_refl` applies. -/

@[simp] theorem sched_malloc (a w : World) (n : Nat) : a.sameSched (w.malloc n).1 ↔ a.sameSched w := by
  rw [malloc_fst]; split <;> exact Iff.rfl
@[simp] theorem sched_free (a w : World) (n : Nat) : a.sameSched (w.free n) ↔ a.sameSched w := Iff.rfl
@[simp] theorem sched_send (a w : World) : a.sameSched w.send.1 ↔ a.sameSched w := Iff.rfl
@[simp] theorem sched_raw (a w : World) (n : Nat) : a.sameSched (w.rawAlloc n) ↔ a.sameSched w := Iff.rfl

theorem malloc_sched (w : World) (n : Nat) : w.sameSched (w.malloc n).1 := by simp
theorem send_sched (w : World) : w.sameSched w.send.1 := ⟨rfl, rfl, rfl, rfl⟩

@[simp] theorem sched_freeNodes (a w : World) (k : Nat) : a.sameSched (freeNodes w k) ↔ a.sameSched w := by
  induction k generalizing w with
  | zero => exact Iff.rfl
  | succ k ih => rw [freeNodes, ih, sched_free]

@[simp] theorem sched_sendProbeMsg (a : World) (c : Cfg) (st : St) (w : World) (fx : List Fx) (src dst : Mac) (pause ty : Nat) (ack : Bool) :
    a.sameSched (sendProbeMsg c st w fx src dst pause ty ack).1 ↔ a.sameSched w := by
  refine sendProbeMsg_cases (P := fun r => a.sameSched r.1 ↔ a.sameSched w) c st w fx src dst pause ty ack ?_ ?_ ?_ <;> intros <;> simp

@[simp] theorem sched_emitLoop (a : World) (c : Cfg) (st : St) (img : List Nat) (n k i : Nat) (w : World) (fx : List Fx) :
    a.sameSched (emitLoop c st img n k i w fx).1 ↔ a.sameSched w :=
  emitLoop_ind (Q := fun w' _ => a.sameSched w' ↔ a.sameSched w) c st img n (fun _ h => by simpa using h) k i w fx Iff.rfl

@[simp] theorem sched_parseEmit (a : World) (c : Cfg) (w : World) (st : St) (img : List Nat) :
    a.sameSched (parseEmit c w st img).w ↔ a.sameSched w := by
  refine parseEmit_cases (P := fun o => a.sameSched o.w ↔ a.sameSched w) c w st img ?_ ?_ ?_ <;> intros <;> simp

@[simp] theorem sched_answerHello (a : World) (c : Cfg) (g : Glob) (w : World) (st : St) (img : List Nat) :
    a.sameSched (answerHello c g w st img).w ↔ a.sameSched w := by
  refine answerHello_cases (P := fun o => a.sameSched o.w ↔ a.sameSched w) c g w st img ?_ ?_ ?_ <;> intros <;> simp

@[simp] theorem sched_parseProbe (a : World) (c : Cfg) (w : World) (st : St) (img : List Nat) :
    a.sameSched (parseProbe c w st img).w ↔ a.sameSched w := by
  refine parseProbe_cases (P := fun o => a.sameSched o.w ↔ a.sameSched w) c w st img ?_ ?_ ?_ ?_ <;> intros <;> simp

@[simp] theorem sched_parseQuery (a : World) (c : Cfg) (w : World) (st : St) (img : List Nat) :
    a.sameSched (parseQuery c w st img).w ↔ a.sameSched w := by
  refine parseQuery_cases (P := fun o => a.sameSched o.w ↔ a.sameSched w) c w st img ?_ ?_ ?_ <;> intros <;> simp

@[simp] theorem sched_release (a w : World) (rel : Option Nat) : a.sameSched (release w rel) ↔ a.sameSched w := by
  cases rel <;> exact Iff.rfl

theorem sched_largeFetch (a : World) (g : Glob) (w : World) (st : St) (ty : Nat) :
    a.sameSched (largeFetch g w st ty).w ↔ a.sameSched w := by
  refine largeFetch_cases (P := fun f => a.sameSched f.w ↔ a.sameSched w) g w st ty ?_ ?_ ?_ ?_ ?_ ?_ ?_ ?_ <;> intros <;> simp

theorem sched_respond (a : World) (c : Cfg) (img : List Nat) (off : Nat) (f : Fetched) :
    a.sameSched (respond c img off f).w ↔ a.sameSched f.w := by
  refine respond_cases (P := fun o => a.sameSched o.w ↔ a.sameSched f.w) c img off f ?_ ?_ <;> intros <;> simp

@[simp] theorem sched_parseQueryLargeTlv (a : World) (c : Cfg) (g : Glob) (w : World) (st : St) (img : List Nat) :
    a.sameSched (parseQueryLargeTlv c g w st img).w ↔ a.sameSched w := by
  rw [parseQueryLargeTlv_eq]
  split
  · exact Iff.rfl
  · rw [sched_respond, sched_largeFetch]

@[simp] theorem sched_resetWorld (a w : World) (st : St) : a.sameSched (resetWorld w st) ↔ a.sameSched w := by
  unfold resetWorld
  simp only []
  split <;> simp

theorem parseFrameSt_sched (c : Cfg) (g : Glob) (w : World) (st : St) (img : List Nat) : w.sameSched (parseFrameSt c g w st img).w := by
  rw [parseFrameSt_req]
  cases reqOf img <;> simp only [reactTo]
  case discover => split <;> simp
  all_goals simp

end LLTD
