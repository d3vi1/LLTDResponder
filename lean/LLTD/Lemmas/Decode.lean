/- The model's QueryResp and QueryLargeTlvResp frames read back by the independent decoder. -/
import LLTD.Lemmas.Header
import LLTD.Lemmas.Inv

namespace LLTD
open LLTD.Spec

/-- an observation as the mapper reads it in a QueryResp -/
def toDesc (o : Obs) : ObsDesc := { typ := o.typ, realSrc := o.realSrc, src := o.src, dst := o.dst }

theorem obsWire_length (o : Obs) (h : ObsOk o) : (obsWire o).length = 20 := by
  simp [obsWire, h.r, h.s, h.d]

theorem obsWire_fields (o : Obs) (h : ObsOk o) :
    unbe (slice (obsWire o) 0 2) = o.typ ∧ slice (obsWire o) 2 6 = o.realSrc ∧ slice (obsWire o) 8 6 = o.src ∧ slice (obsWire o) 14 6 = o.dst := by
  have ht : o.typ % 256 ^ 2 = o.typ := Nat.mod_eq_of_lt (by have := h.t; omega)
  simp only [obsWire, List.append_assoc, slice_append_right, slice_prefix, h.r, h.s, be_length, Nat.le_refl, Nat.reduceLeDiff,
    Nat.reduceSub, unbe_be, ht, slice_all _ 6 h.d, and_self]

theorem decodeQueryResp_some (f : List Nat) (x : QueryResp) (h : decodeQueryResp f = some x) :
    decodeBase f = some x.base ∧ x.base.opcode = 7 ∧ 34 ≤ f.length := by
  unfold decodeQueryResp at h
  cases hb : decodeBase f with
  | none => rw [hb] at h; cases h
  | some b =>
    rw [hb] at h; dsimp only at h
    by_cases hc : b.opcode ≠ 7 ∨ f.length < 34
    · rw [if_pos hc] at h; cases h
    · rw [if_neg hc] at h
      by_cases hl : f.length ≠ 34 + 20 * (unbe (slice f 32 2) % 16384)
      · rw [if_pos hl] at h; cases h
      · rw [if_neg hl] at h; cases h; exact ⟨rfl, Decidable.not_not.mp (not_or.mp hc).1, Nat.not_lt.mp (not_or.mp hc).2⟩

theorem decodeLargeResp_some (f : List Nat) (x : LargeResp) (h : decodeLargeResp f = some x) :
    decodeBase f = some x.base ∧ x.base.opcode = 12 ∧ 34 ≤ f.length := by
  unfold decodeLargeResp at h
  cases hb : decodeBase f with
  | none => rw [hb] at h; cases h
  | some b =>
    rw [hb] at h; dsimp only at h
    by_cases hc : b.opcode ≠ 12 ∨ f.length < 34
    · rw [if_pos hc] at h; cases h
    · rw [if_neg hc] at h
      by_cases hl : f.length ≠ 34 + unbe (slice f 32 2) % 16384
      · rw [if_pos hl] at h; cases h
      · rw [if_neg hl] at h; cases h; exact ⟨rfl, Decidable.not_not.mp (not_or.mp hc).1, Nat.not_lt.mp (not_or.mp hc).2⟩

theorem slice_word32 {hdr rest : List Nat} {w : Nat} (hl : hdr.length = 32) : slice (hdr ++ (be 2 w ++ rest)) 32 2 = be 2 w := by
  rw [slice_append_add _ _ _ 0 _ (by rw [hl]), slice_prefix _ _ _ (by rw [be_length])]

theorem decodeQueryResp_records {hdr : List Nat} {b : Base} {w : Nat} {obs : List Obs}
    (hb : ∀ {rest}, decodeBase (hdr ++ rest) = some b) (hl : hdr.length = 32) (hop : b.opcode = 7)
    (hw : w < 65536) (hn : w % 16384 = obs.length) (hobs : ∀ o ∈ obs, ObsOk o) :
    decodeQueryResp (hdr ++ (be 2 w ++ obs.flatMap obsWire)) =
      some { base := b, more := decide (w ≥ 32768), descs := obs.map toDesc } := by
  have hrec := fun o ho => obsWire_length o (hobs o ho)
  have hlen : (hdr ++ (be 2 w ++ obs.flatMap obsWire)).length = 34 + 20 * obs.length := by
    rw [List.length_append, List.length_append, hl, be_length, length_flatMap_const _ 20 _ hrec]; omega
  -- a field of the `i`-th descriptor, at the offset the decoder writes
  have hfield : ∀ (i : Nat) (hi : i < obs.length) (off k n : Nat), off = 34 + 20 * i + k → k + n ≤ 20 →
      slice (hdr ++ (be 2 w ++ obs.flatMap obsWire)) off n = slice (obsWire obs[i]) k n := by
    intro i hi off k n ho hk
    rw [slice_append_add _ _ off (2 + (20 * i + k)) _ (by rw [hl]; omega),
      slice_append_add _ _ _ (20 * i + k) _ (by rw [be_length]), slice_flatMap_const _ 20 _ hrec i hi k n hk]
  unfold decodeQueryResp
  rw [hb, slice_word32 hl, unbe_be_of_lt 2 w (by omega)]
  simp only [hop, hlen, hn, ne_eq, not_true_eq_false, false_or, Nat.not_lt.mpr (Nat.le_add_right 34 _), if_false]
  refine congrArg (fun d => some ({ base := b, more := decide (w ≥ 32768), descs := d } : QueryResp)) (List.ext_getElem (by simp) ?_)
  intro i _ h2
  have hi : i < obs.length := by simpa using h2
  obtain ⟨f1, f2, f3, f4⟩ := obsWire_fields obs[i] (hobs _ (List.getElem_mem hi))
  simp only [List.getElem_map, List.getElem_range]
  rw [hfield i hi (34 + 20 * i) 0 2 rfl (by decide), hfield i hi (36 + 20 * i) 2 6 (by omega) (by decide),
    hfield i hi (42 + 20 * i) 8 6 (by omega) (by decide), hfield i hi (48 + 20 * i) 14 6 (by omega) (by decide), f1, f2, f3, f4]
  rfl

theorem decodeLargeResp_payload {hdr : List Nat} {b : Base} {w : Nat} {payload : List Nat}
    (hb : ∀ {rest}, decodeBase (hdr ++ rest) = some b) (hl : hdr.length = 32) (hop : b.opcode = 12)
    (hw : w < 65536) (hp : payload.length = w % 16384) :
    decodeLargeResp (hdr ++ (be 2 w ++ payload)) = some { base := b, more := decide (w ≥ 32768), payload := payload } := by
  have hlen : (hdr ++ (be 2 w ++ payload)).length = 34 + w % 16384 := by
    rw [List.length_append, List.length_append, hl, be_length, hp]; omega
  unfold decodeLargeResp
  rw [hb, slice_word32 hl, unbe_be_of_lt 2 w (by omega), drop_append_append (by rw [hl, be_length])]
  simp only [hop, hlen, ne_eq, not_true_eq_false, false_or, Nat.not_lt.mpr (Nat.le_add_right 34 _), if_false]

theorem respDest_length (img : List Nat) (h : ImgOk img) : (respDest img).length = 6 := by
  unfold respDest; split
  · exact fRealSrc_len img h
  · rfl

theorem queryFrame_eq (c : Cfg) (img : List Nat) (seq n : Nat) (more : Bool) (descs : List Nat) :
    queryFrame c img seq n more descs =
      lltdHeader 0 (respDest img) c.ourMac (respDest img) c.ourMac seq X.opQueryResp X.tosDiscovery ++
        (be 2 (n ||| (if more then 0x8000 else 0)) ++ descs) := by
  unfold queryFrame; rw [List.append_assoc]

theorem largeFrame_eq (c : Cfg) (dest : Mac) (seq lenField : Nat) (payload : List Nat) :
    largeFrame c dest seq lenField payload =
      lltdHeader 0 dest c.ourMac dest c.ourMac seq X.opQltlvResp X.tosDiscovery ++ (be 2 lenField ++ payload) := by
  unfold largeFrame; rw [List.append_assoc]

theorem decodeBase_queryFrame (c : Cfg) (img : List Nat) (seq n : Nat) (more : Bool) (descs : List Nat) (hc : CfgOk c) (him : ImgOk img) :
    decodeBase (queryFrame c img seq n more descs) =
      some { ethDst := respDest img, ethSrc := c.ourMac, etherType := 0x88D9, version := 1, tos := X.tosDiscovery, reserved := 0,
             opcode := X.opQueryResp, realDst := respDest img, realSrc := c.ourMac, seq := seq % 65536 } := by
  have hd := respDest_length img him
  have hm := ourMac_length c hc
  rw [queryFrame_eq]; exact decodeBase_lltdHeader hd hm hd hm

theorem decodeBase_largeFrame (c : Cfg) (dest : Mac) (seq lf : Nat) (payload : List Nat) (hc : CfgOk c) (hd : dest.length = 6) :
    decodeBase (largeFrame c dest seq lf payload) =
      some { ethDst := dest, ethSrc := c.ourMac, etherType := 0x88D9, version := 1, tos := X.tosDiscovery, reserved := 0,
             opcode := X.opQltlvResp, realDst := dest, realSrc := c.ourMac, seq := seq % 65536 } := by
  have hm := ourMac_length c hc
  rw [largeFrame_eq]; exact decodeBase_lltdHeader hd hm hd hm

/-- THE QUERYRESP DECODE THEOREM: what the mapper reads from the model's QueryResp is the header the model meant,
    the `more` flag, and exactly the listed observations in order -/
theorem decodeQueryResp_queryFrame (c : Cfg) (img : List Nat) (seq : Nat) (more : Bool) (obs : List Obs) (hc : CfgOk c)
    (him : ImgOk img) (hobs : ∀ o ∈ obs, ObsOk o) (hcap : obs.length < 16384) :
    decodeQueryResp (queryFrame c img seq obs.length more (obs.flatMap obsWire)) =
      some { base := { ethDst := respDest img, ethSrc := c.ourMac, etherType := 0x88D9, version := 1, tos := X.tosDiscovery, reserved := 0,
                       opcode := X.opQueryResp, realDst := respDest img, realSrc := c.ourMac, seq := seq % 65536 },
             more := more, descs := obs.map toDesc } := by
  have hm := ourMac_length c hc
  have hd := respDest_length img him
  obtain ⟨hlt, hlow, hbit⟩ := countWord obs.length more hcap
  rw [queryFrame_eq, decodeQueryResp_records (decodeBase_lltdHeader (op := X.opQueryResp) hd hm hd hm)
    (lltdHeader_length hd hm hd hm) X.opQueryResp_val hlt hlow hobs, hbit]

/-- the QueryResp parseQuery builds: the first `n` observations of a record that satisfies the invariant -/
theorem decodeQueryResp_take (c : Cfg) (img : List Nat) (seq n : Nat) (more : Bool) (st : St) (hc : CfgOk c) (him : ImgOk img)
    (hi : St.Inv st) (hn : n ≤ st.sees.length) :
    decodeQueryResp (queryFrame c img seq n more ((st.sees.take n).flatMap obsWire)) =
      some { base := { ethDst := respDest img, ethSrc := c.ourMac, etherType := 0x88D9, version := 1, tos := X.tosDiscovery, reserved := 0,
                       opcode := X.opQueryResp, realDst := respDest img, realSrc := c.ourMac, seq := seq % 65536 },
             more := more, descs := (st.sees.take n).map toDesc } := by
  have hlen : (st.sees.take n).length = n := by rw [List.length_take]; omega
  have h := decodeQueryResp_queryFrame c img seq more (st.sees.take n) hc him (fun o ho => hi.obs o (List.mem_of_mem_take ho))
    (by have := hi.cap; omega)
  rwa [hlen] at h

theorem decodeLargeResp_largeFrame (c : Cfg) (dest : Mac) (seq lenField : Nat) (payload : List Nat) (hc : CfgOk c)
    (hd : dest.length = 6) (hf : lenField < 65536) (hp : payload.length = lenField % 16384) :
    decodeLargeResp (largeFrame c dest seq lenField payload) =
      some { base := { ethDst := dest, ethSrc := c.ourMac, etherType := 0x88D9, version := 1, tos := X.tosDiscovery, reserved := 0,
                       opcode := X.opQltlvResp, realDst := dest, realSrc := c.ourMac, seq := seq % 65536 },
             more := decide (lenField ≥ 32768), payload := payload } := by
  have hm := ourMac_length c hc
  rw [largeFrame_eq, decodeLargeResp_payload (decodeBase_lltdHeader (op := X.opQltlvResp) hd hm hd hm)
    (lltdHeader_length hd hm hd hm) X.opQltlvResp_val hf hp]

end LLTD
