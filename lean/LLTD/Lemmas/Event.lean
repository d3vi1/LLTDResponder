/- The frame accessors at their documented offsets, and facts about the classifier model (Model/Event.lean). -/
import LLTD.Model.Event
import LLTD.Lemmas.XVals

namespace LLTD

theorem fEthDst_eq (img : List Nat) : fEthDst img = slice img 0 6 := rfl
theorem fEthSrc_eq (img : List Nat) : fEthSrc img = slice img 6 6 := rfl
theorem fTos_eq (img : List Nat) : fTos img = byteAt img 15 := rfl
theorem fOpcode_eq (img : List Nat) : fOpcode img = byteAt img 17 := rfl
theorem fRealDst_eq (img : List Nat) : fRealDst img = slice img 18 6 := rfl
theorem fRealSrc_eq (img : List Nat) : fRealSrc img = slice img 24 6 := rfl
theorem fSeq_eq (img : List Nat) : fSeq img = unbe (slice img 30 2) := rfl
theorem fDiscGen_eq (img : List Nat) : fDiscGen img = unbe (slice img 32 2) := rfl

theorem stationCount_min (img : List Nat) : stationCount img = min (unbe (slice img 34 2)) ((img.length - 36) / 6) := by
  unfold stationCount
  simp only [X.sizeofDemux_val, X.offDiscCount_val, X.offDiscList_val, X.strideStation_val, Nat.reduceAdd]
  split <;> omega

/-- the clamped count never reaches past the frame -/
theorem stationCount_fits (img : List Nat) (h36 : 36 ≤ img.length) : 36 + stationCount img * 6 ≤ img.length := by
  rw [stationCount_min]; omega

end LLTD
