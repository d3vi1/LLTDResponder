/- The session-table model (Model/Automata.lean) operation by operation: `updateFirst` (the C loops that leave at their first hit),
   the expiry sweep as a slot-wise map, `add` by its three outcomes, `remove` in one piece, `find` / `firstFree` as `any`. -/
import LLTD.Model.Automata

namespace LLTD

def Table.live (t : Table) : List Entry := t.entries.filter (·.valid)

/-- rewrite EVERY slot satisfying `p` -/
def updateAll (p : Entry → Bool) (f : Entry → Entry) (es : List Entry) : List Entry := es.map (fun e => if p e then f e else e)

theorem updateFirst_set (p : Entry → Bool) (f : Entry → Entry) (d : Entry) (l : List Entry) (h : l.findIdx p < l.length) :
    updateFirst p f l = l.set (l.findIdx p) (f (l.getD (l.findIdx p) d)) := by
  fun_induction updateFirst p f l with
  | case1 => simp at h
  | case2 x xs hx => simp [hx, List.findIdx_cons]
  | case3 x xs hx ih =>
    have hx' : p x = false := by simpa using hx
    have h' : xs.findIdx p < xs.length := by simpa [List.findIdx_cons, hx'] using h
    rw [ih h']; simp [List.findIdx_cons, hx']

theorem updateFirst_of_any_false {p : Entry → Bool} (f : Entry → Entry) {l : List Entry} (h : l.any p = false) :
    updateFirst p f l = l := by
  induction l with
  | nil => rfl
  | cons x xs ih =>
    simp only [List.any_cons, Bool.or_eq_false_iff] at h
    simp only [updateFirst, h.1, Bool.false_eq_true, if_false, ih h.2]

theorem updateFirst_all (P : Entry → Prop) (p : Entry → Bool) (f : Entry → Entry) (l : List Entry)
    (hl : ∀ x ∈ l, P x) (hf : ∀ x, P x → P (f x)) : ∀ x ∈ updateFirst p f l, P x := by
  fun_induction updateFirst p f l with
  | case1 => exact hl
  | case2 e es hp =>
    intro x hx
    rcases List.mem_cons.mp hx with rfl | h
    · exact hf _ (hl e (List.mem_cons_self ..))
    · exact hl x (List.mem_cons_of_mem _ h)
  | case3 e es hp ih =>
    intro x hx
    rcases List.mem_cons.mp hx with rfl | h
    · exact hl _ (List.mem_cons_self ..)
    · exact ih (fun z hz => hl z (List.mem_cons_of_mem _ hz)) x h

theorem expireLoop_entries (now : Nat) (es : List Entry) (c : Nat) :
    (expireLoop now es c).1 = updateAll (fun e => e.valid && decide (now > e.last + 60)) (fun e => { e with valid := false }) es := by
  induction es generalizing c with
  | nil => rfl
  | cons e es ih =>
    simp only [expireLoop, updateAll, List.map_cons, Bool.and_eq_true, decide_eq_true_eq] at ih ⊢
    split <;> simp only [ih]

theorem create_all_invalid : ∀ e ∈ Table.create.entries, e.valid = false := by
  intro e he
  unfold Table.create at he
  simp only [List.mem_replicate] at he
  rw [he.2]; rfl

theorem create_live : Table.create.live = [] := by
  unfold Table.live
  rw [List.filter_eq_nil_iff]
  intro e he
  simp [create_all_invalid e he]

theorem expire_create (now : Nat) : (Table.create.expire now).live = [] := by
  have h : ∀ e ∈ (expireLoop now Table.create.entries Table.create.count).1, e.valid = false := by
    rw [expireLoop_entries]; intro e he
    obtain ⟨e0, he0, rfl⟩ := List.mem_map.mp he
    split
    · rfl
    · exact create_all_invalid e0 he0
  exact List.filter_eq_nil_iff.mpr (fun e he => by simp [h e he])

theorem Table.add_present (t : Table) (mac : Mac) (gen seq now : Nat) (hk : t.entries.any (fun e => e.matches mac gen) = true) :
    t.add mac gen seq now =
      ({ t with entries := updateFirst (fun e => e.matches mac gen) (fun e => { e with seq := seq, last := now }) t.entries }, t.find mac gen) := by
  unfold Table.add; rw [if_pos hk]

theorem Table.add_free (t : Table) (mac : Mac) (gen seq now : Nat) (hk : t.entries.any (fun e => e.matches mac gen) = false)
    (hf : t.entries.any (fun e => !e.valid) = true) :
    t.add mac gen seq now =
      ({ entries := updateFirst (fun e => !e.valid) (fun _ => newEntry mac gen seq now) t.entries,
         count := (t.count + 1) % u8, allComplete := false }, t.firstFree) := by
  unfold Table.add; rw [if_neg (by simp [hk]), if_pos hf]

theorem Table.add_none (t : Table) (mac : Mac) (gen seq now : Nat) (hk : t.entries.any (fun e => e.matches mac gen) = false)
    (hf : t.entries.any (fun e => !e.valid) = false) : t.add mac gen seq now = (t, none) := by
  unfold Table.add; rw [if_neg (by simp [hk]), if_neg (by simp [hf])]

/-- `remove` in one piece: without a match `updateFirst` rewrites nothing and the count stands -/
theorem Table.remove_eq (t : Table) (mac : Mac) (gen : Nat) :
    t.remove mac gen = ({ t with
      entries := updateFirst (fun e => e.matches mac gen) (fun e => { e with valid := false }) t.entries,
      count := if t.entries.any (fun e => e.matches mac gen) = true ∧ t.count > 0 then t.count - 1 else t.count } : Table).updateStatus := by
  unfold Table.remove
  by_cases hk : t.entries.any (fun e => e.matches mac gen) = true
  · rw [if_pos hk]; simp only [hk, true_and]
  · rw [if_neg hk, if_neg (fun hc => hk hc.1), updateFirst_of_any_false _ (by simpa using hk)]

theorem findIdx_isSome (p : Entry → Bool) (es : List Entry) :
    (if es.findIdx p < es.length then some (es.findIdx p) else none).isSome = es.any p := by
  by_cases h : es.findIdx p < es.length
  · rw [if_pos h]; exact (List.any_eq_true.mpr (List.findIdx_lt_length.mp h)).symm
  · rw [if_neg h]
    exact (Bool.eq_false_iff.mpr (fun ha => h (List.findIdx_lt_length.mpr (List.any_eq_true.mp ha)))).symm

theorem Table.find_isSome (t : Table) (mac : Mac) (gen : Nat) : (t.find mac gen).isSome = t.entries.any (fun e => e.matches mac gen) :=
  findIdx_isSome _ _

theorem Table.firstFree_isSome (t : Table) : t.firstFree.isSome = t.entries.any (fun e => !e.valid) :=
  findIdx_isSome _ _

end LLTD
