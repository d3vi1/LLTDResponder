/- The session-table model against its dictionary specification (Spec/Table.lean).  The live sessions are a `filterMap` of the
   slots (`liveS_eq`), so a slot-wise rewrite acts on them as a `filterMap` (`liveS_map`); with one session per key the loops that
   rewrite the FIRST matching slot rewrite every matching slot (`updateFirst_matches`), which makes refresh, removal and completion
   such rewrites; insertion into a free slot permutes `s :: live` (`liveS_updateFirst_insert`). -/
import LLTD.Spec.Table
import LLTD.Lemmas.Table

namespace LLTD
open LLTD.Spec

def liveS (es : List Entry) : List Sess := (es.filter (·.valid)).map sessOf

theorem liveS_cons_valid (e : Entry) (es : List Entry) (h : e.valid = true) : liveS (e :: es) = sessOf e :: liveS es := by
  simp [liveS, h]
theorem liveS_cons_invalid (e : Entry) (es : List Entry) (h : e.valid = false) : liveS (e :: es) = liveS es := by
  simp [liveS, h]

def sessOpt (e : Entry) : Option Sess := if e.valid then some (sessOf e) else none

theorem liveS_eq (es : List Entry) : liveS es = es.filterMap sessOpt := by
  simp only [liveS, ← List.filterMap_eq_filter, List.map_filterMap]
  congr 1; funext e; by_cases h : e.valid = true <;> simp [sessOpt, Option.guard, h]

/-- a slot-wise rewrite `h` that acts on the session of a slot as `φ` acts on the live view as `filterMap φ` -/
theorem liveS_map (es : List Entry) (h : Entry → Entry) (φ : Sess → Option Sess)
    (hφ : ∀ e, sessOpt (h e) = (sessOpt e).bind φ) : liveS (es.map h) = (liveS es).filterMap φ := by
  simp only [liveS_eq, List.filterMap_map, List.filterMap_filterMap, Function.comp_def, hφ]

theorem matches_eq (e : Entry) (mac : Mac) (gen : Nat) : e.matches mac gen = (e.valid && (sessOf e).key == (mac, gen)) := by
  simp only [Entry.matches, Bool.and_assoc]; rfl

theorem matches_iff (e : Entry) (mac : Mac) (gen : Nat) :
    e.matches mac gen = true ↔ e.valid = true ∧ (sessOf e).key = (mac, gen) := by
  rw [matches_eq, Bool.and_eq_true, beq_iff_eq]

theorem matches_key (mac : Mac) (gen : Nat) (e : Entry) (hv : e.valid = true) :
    e.matches mac gen = ((sessOf e).key == (mac, gen)) := by
  rw [matches_eq, hv, Bool.true_and]

theorem any_matches_eq (es : List Entry) (mac : Mac) (gen : Nat) :
    es.any (fun e => e.matches mac gen) = (liveS es).any (fun s => s.key == (mac, gen)) := by
  simp only [liveS, List.any_map, List.any_filter, matches_eq, Function.comp_def]

theorem noDupKeys_cons (s : Sess) (l : List Sess) : noDupKeys (s :: l) = (!(l.any (fun x => x.key == s.key)) && noDupKeys l) := rfl

/-- with one session per key, the first slot of a key is the only one: the `break` of the C loops changes nothing -/
theorem updateFirst_matches (es : List Entry) (mac : Mac) (gen : Nat) (f : Entry → Entry) (hnd : noDupKeys (liveS es) = true) :
    updateFirst (fun e => e.matches mac gen) f es = updateAll (fun e => e.matches mac gen) f es := by
  fun_induction updateFirst (fun e => e.matches mac gen) f es with
  | case1 => rfl
  | case2 e es hm =>
    simp only [updateAll, List.map_cons, if_pos hm]; congr 1; symm; refine (List.map_congr_left ?_).trans (List.map_id' es)
    -- no later live session has this key
    intro e' he'; rw [if_neg]; intro hm'
    obtain ⟨hv, hk⟩ := (matches_iff e mac gen).mp hm
    obtain ⟨hv', hk'⟩ := (matches_iff e' mac gen).mp hm'
    rw [liveS_cons_valid e es hv, noDupKeys_cons, Bool.and_eq_true, Bool.not_eq_true', List.any_eq_false] at hnd
    exact hnd.1 (sessOf e') (List.mem_map_of_mem (List.mem_filter.mpr ⟨he', hv'⟩)) (by rw [hk, hk']; exact beq_self_eq_true _)
  | case3 e es hm ih =>
    have hnd' : noDupKeys (liveS es) = true := by
      by_cases hv : e.valid = true
      · rw [liveS_cons_valid e es hv, noDupKeys_cons, Bool.and_eq_true] at hnd; exact hnd.2
      · rw [liveS_cons_invalid e es (by simpa using hv)] at hnd; exact hnd
    simp only [updateAll, List.map_cons, if_neg hm]; exact congrArg (e :: ·) (ih hnd')

theorem liveS_updateAll_keep (es : List Entry) (p : Entry → Bool) (q : Sess → Bool) (f : Entry → Entry) (g : Sess → Sess)
    (hpq : ∀ e, e.valid = true → p e = q (sessOf e)) (hv : ∀ e, (f e).valid = e.valid) (hg : ∀ e, sessOf (f e) = g (sessOf e)) :
    liveS (updateAll p f es) = (liveS es).map (fun s => if q s then g s else s) := by
  rw [updateAll, liveS_map es _ (some ∘ fun s => if q s then g s else s), List.filterMap_eq_map]
  intro e
  by_cases he : e.valid = true
  · by_cases hp : p e = true <;> simp [sessOpt, he, hp, hv, hg, ← hpq e he]
  · by_cases hp : p e = true <;> simp [sessOpt, he, hp, hv]

theorem liveS_updateAll_drop (es : List Entry) (p : Entry → Bool) (q : Sess → Bool)
    (hpq : ∀ e, e.valid = true → p e = q (sessOf e)) :
    liveS (updateAll p (fun e => { e with valid := false }) es) = (liveS es).filter (fun s => !q s) := by
  rw [updateAll, liveS_map es _ (Option.guard fun s => !q s), List.filterMap_eq_filter]
  intro e
  by_cases he : e.valid = true
  · by_cases hp : p e = true <;> simp [sessOpt, Option.guard, he, hp, ← hpq e he]
  · by_cases hp : p e = true <;> simp [sessOpt, he, hp]

theorem liveS_updateFirst_keep (es : List Entry) (mac : Mac) (gen : Nat) (f : Entry → Entry) (g : Sess → Sess)
    (hv : ∀ e, (f e).valid = e.valid) (hg : ∀ e, sessOf (f e) = g (sessOf e)) (hnd : noDupKeys (liveS es) = true) :
    liveS (updateFirst (fun e => e.matches mac gen) f es) = (liveS es).map (fun s => if s.key == (mac, gen) then g s else s) := by
  rw [updateFirst_matches es mac gen f hnd]
  exact liveS_updateAll_keep es _ _ f g (matches_key mac gen) hv hg

theorem liveS_updateFirst_drop (es : List Entry) (mac : Mac) (gen : Nat) (hnd : noDupKeys (liveS es) = true) :
    liveS (updateFirst (fun e => e.matches mac gen) (fun e => { e with valid := false }) es) =
      (liveS es).filter (fun s => s.key != (mac, gen)) := by
  rw [updateFirst_matches es mac gen _ hnd]
  exact liveS_updateAll_drop es _ _ (matches_key mac gen)

theorem liveS_length_drop_first (p : Entry → Bool) (es : List Entry) (hp : ∀ e, p e = true → e.valid = true) (h : es.any p = true) :
    (liveS (updateFirst p (fun e => { e with valid := false }) es)).length + 1 = (liveS es).length := by
  fun_induction updateFirst p (fun e => { e with valid := false }) es with
  | case1 => simp at h
  | case2 e es hm => rw [liveS_cons_invalid _ _ rfl, liveS_cons_valid e es (hp e hm)]; rfl
  | case3 e es hm ih =>
    have := ih (by simpa [hm] using h)
    by_cases hv : e.valid = true
    · rw [liveS_cons_valid e _ hv, liveS_cons_valid e es hv]; simp only [List.length_cons]; omega
    · rw [liveS_cons_invalid e _ (by simpa using hv), liveS_cons_invalid e es (by simpa using hv)]; exact this

theorem liveS_updateFirst_insert (es : List Entry) (n : Entry) (hn : n.valid = true) (hfree : es.any (fun e => !e.valid) = true) :
    (liveS (updateFirst (fun e => !e.valid) (fun _ => n) es)).Perm (sessOf n :: liveS es) := by
  fun_induction updateFirst (fun e => !e.valid) (fun _ => n) es with
  | case1 => simp at hfree
  | case2 e es hv => rw [liveS_cons_valid n es hn, liveS_cons_invalid e es (by simpa using hv)]
  | case3 e es hv ih =>
    have hv : e.valid = true := by simpa using hv
    rw [liveS_cons_valid e _ hv, liveS_cons_valid e es hv]
    exact ((ih (by simpa [hv] using hfree)).cons _).trans (List.Perm.swap ..)

theorem updateFirst_length (p : Entry → Bool) (f : Entry → Entry) (es : List Entry) : (updateFirst p f es).length = es.length := by
  fun_induction updateFirst p f es with
  | case1 => rfl
  | case2 => rfl
  | case3 e es hp ih => exact congrArg (· + 1) ih

theorem liveS_length_le (es : List Entry) : (liveS es).length ≤ es.length := by
  simp only [liveS, List.length_map]; exact List.length_filter_le _ _

theorem any_free_iff (es : List Entry) : es.any (fun e => !e.valid) = true ↔ (liveS es).length < es.length := by
  simp only [liveS, List.length_map, List.length_filter_lt_length_iff_exists, List.any_eq_true, Bool.not_eq_true', Bool.not_eq_true]

theorem all_complete_eq (es : List Entry) : es.all (fun e => !e.valid || e.complete) = (liveS es).all (·.complete) := by
  simp only [liveS, List.all_map, List.all_filter, Function.comp_def, sessOf]

theorem sameSet_refl (l : List Sess) : sameSet l l = true := by
  simp [sameSet, List.all_eq_true]

theorem sameSet_perm (a b : List Sess) (h : a.Perm b) : sameSet a b = true := by
  simp only [sameSet, Bool.and_eq_true, List.all_eq_true, List.contains_iff_mem]
  exact ⟨fun _ => h.mem_iff.mp, fun _ => h.mem_iff.mpr⟩

def keysOf (l : List Sess) : List (Mac × Nat) := l.map (·.key)

theorem noDupKeys_iff (l : List Sess) : noDupKeys l = true ↔ (keysOf l).Nodup := by
  induction l with
  | nil => simp [noDupKeys, keysOf]
  | cons s l ih =>
    rw [noDupKeys_cons, Bool.and_eq_true, ih]
    simp only [keysOf, List.map_cons, List.nodup_cons, List.mem_map, Bool.not_eq_true', List.any_eq_false, beq_iff_eq]
    constructor
    · rintro ⟨h1, h2⟩; exact ⟨fun ⟨x, hx, hk⟩ => h1 x hx hk, h2⟩
    · rintro ⟨h1, h2⟩; exact ⟨fun x hx hk => h1 ⟨x, hx, hk⟩, h2⟩

theorem noDupKeys_map_keep (l : List Sess) (g : Sess → Sess) (hg : ∀ s, (g s).key = s.key) (h : noDupKeys l = true) :
    noDupKeys (l.map g) = true := by
  rw [noDupKeys_iff] at *
  have : keysOf (l.map g) = keysOf l := by simp [keysOf, List.map_map, Function.comp_def, hg]
  rw [this]; exact h

theorem noDupKeys_filter (l : List Sess) (p : Sess → Bool) (h : noDupKeys l = true) : noDupKeys (l.filter p) = true := by
  rw [noDupKeys_iff] at *
  have : (keysOf (l.filter p)).Sublist (keysOf l) := by
    unfold keysOf; exact List.Sublist.map _ List.filter_sublist
  exact List.Nodup.sublist this h

theorem noDupKeys_perm (a b : List Sess) (h : a.Perm b) : noDupKeys a = noDupKeys b := by
  rw [Bool.eq_iff_iff, noDupKeys_iff, noDupKeys_iff]; exact (h.map _).nodup_iff

theorem expire_live (now : Nat) (es : List Entry) (c : Nat) :
    liveS (expireLoop now es c).1 = (liveS es).filter (fresh now) := by
  rw [expireLoop_entries, liveS_updateAll_drop es _ (fun s => decide (now > s.last + 60)) (fun e hv => by simp [hv, sessOf])]
  congr 1; funext s; simp only [fresh, gt_iff_lt, ← Nat.not_le, decide_not, Bool.not_not]

/-- the counter goes down by one for each session swept: it keeps its distance `k` to the number of live sessions -/
theorem expireLoop_count (now : Nat) (es : List Entry) (c k : Nat) (h : c = k + (liveS es).length) :
    (expireLoop now es c).2 = k + ((liveS es).filter (fresh now)).length := by
  induction es generalizing c k with
  | nil => simpa [expireLoop, liveS] using h
  | cons e es ih =>
    simp only [expireLoop]
    by_cases hx : e.valid = true ∧ now > e.last + 60
    · rw [liveS_cons_valid e es hx.1, List.length_cons] at h
      have hf : fresh now (sessOf e) = false := decide_eq_false (by show ¬ now ≤ e.last + 60; omega)
      rw [if_pos hx, liveS_cons_valid e es hx.1, List.filter_cons, hf]
      exact ih _ k (by split <;> omega)
    · rw [if_neg hx]
      by_cases hv : e.valid = true
      · rw [liveS_cons_valid e es hv, List.length_cons] at h
        have hf : fresh now (sessOf e) = true := decide_eq_true (Nat.le_of_not_lt fun hg => hx ⟨hv, hg⟩)
        rw [liveS_cons_valid e es hv, List.filter_cons, hf]
        have := ih c (k + 1) (by omega)
        simp only [if_true, List.length_cons]; omega
      · rw [liveS_cons_invalid e es (by simpa using hv)] at h ⊢; exact ih c k h

end LLTD
