/- Facts about the model of automata_tick (Model/Automata.lean): its stages seen from outside. -/
import LLTD.Model.Automata

namespace LLTD

theorem tick_mapping (s : TickState) (port : PortMode) (nowMs : Nat) :
    (tick s port nowMs).1.mapping = (tickMapStage s.mapping s.table (nowMs / 1000)).1 := rfl

theorem tick_table (s : TickState) (port : PortMode) (nowMs : Nat) :
    (tick s port nowMs).1.table = (tickMapStage s.mapping s.table (nowMs / 1000)).2.map (fun t => t.expire (nowMs / 1000)) := rfl

theorem mapCheckInactive_iff (m : MapState) (n : Nat) : mapCheckInactive m n = true ↔ m.inactTs ≠ 0 ∧ n ≥ m.inactTs := by
  simp only [mapCheckInactive, decide_eq_true_eq]

theorem tickMapStage_some (f : Fsm) (m : MapState) (tb : Option Table) (n : Nat) :
    tickMapStage (some (f, some m)) tb n =
      if mapCheckInactive m n then
        (some (stepMapping f (-1) n, some (mapCheckCharge (mapResetCharge { m with inactTs := 0 }) n).1), tb.map Table.clear)
      else (some (f, some (mapCheckCharge m n).1), tb) := by
  simp only [tickMapStage]; split <;> rfl

/-- the four ways through the table-driven update, each with the guards it is reached under -/
theorem enumUpdate_cases {P : Fsm × Band → Prop} (e : Fsm) (b : Band) (te ac : Bool) (nowS : Nat)
    (idle : e.state = 0 → P (e, b))
    (quiesce : e.state ≠ 0 → te = true → P ({ e with state := 0 }, { b with helloTs := 0, blockTs := 0, begun := false }))
    (complete : e.state ≠ 0 → te = false → ac = true → P (stepEnumeration e X.enumSessComplete nowS, b))
    (incomplete : e.state ≠ 0 → te = false → ac = false → P (stepEnumeration e X.enumSessNotComplete nowS, b)) :
    P (enumUpdate e b te ac nowS) := by
  unfold enumUpdate
  by_cases h0 : e.state ≠ 0
  · rw [if_pos h0]
    cases te with
    | true => exact quiesce h0 rfl
    | false =>
      cases ac with
      | true => exact complete h0 rfl rfl
      | false => exact incomplete h0 rfl rfl
  · rw [if_neg h0]; exact idle (by omega)

/-- the update leaves the band alone unless it returns the enumeration to Quiescent -/
theorem enumUpdate_band (e : Fsm) (b : Band) (te ac : Bool) (nowS : Nat) :
    (enumUpdate e b te ac nowS).2 = b ∨
    ((enumUpdate e b te ac nowS).1.state = 0 ∧ (enumUpdate e b te ac nowS).2 = { b with helloTs := 0, blockTs := 0, begun := false }) :=
  enumUpdate_cases (P := fun u => u.2 = b ∨ (u.1.state = 0 ∧ u.2 = { b with helloTs := 0, blockTs := 0, begun := false })) e b te ac nowS
    (fun _ => .inl rfl) (fun _ _ => .inr ⟨rfl, rfl⟩) (fun _ _ _ => .inl rfl) (fun _ _ _ => .inl rfl)

/-- the band the enumeration stage leaves (moving clock; `nowL = nowMs` is `tickEnumStage`): the one it was given, that one with its
    timers disarmed, or — only in Pausing, where the update has not touched it — what the Hello and block branches make of it -/
theorem tickEnumStageR_band (e : Fsm) (b : Band) (table : Option Table) (lastTx0 : Nat) (port : PortMode) (nowMs nowL : Nat) :
    ∃ e' b', (tickEnumStageR (some (e, some b)) table lastTx0 port nowMs nowL).1 = some (e', some b') ∧
      (b' = b ∨ b' = { b with helloTs := 0, blockTs := 0, begun := false } ∨
        ∃ e1, b' = enumBlockR (enumHelloR e1 b lastTx0 port nowMs nowL).2.1 nowMs nowL) := by
  simp only [tickEnumStageR]
  have hu := enumUpdate_band e b (tableEmptyOf table) (allCompleteOf table) (nowL / 1000)
  generalize enumUpdate e b (tableEmptyOf table) (allCompleteOf table) (nowL / 1000) = u at hu ⊢
  by_cases hs : u.1.state = 1
  · rw [if_pos hs, hu.resolve_right (fun h => by omega)]
    exact ⟨_, _, rfl, .inr (.inr ⟨_, rfl⟩)⟩
  · rw [if_neg hs]
    exact ⟨_, _, rfl, hu.imp_right fun h => .inl h.2⟩

/-- a component of a state that steps on its own: its history is the fold of its own step -/
theorem foldl_proj {α β γ : Type} (f : α → γ → α) (g : β → γ → β) (π : α → β) (h : ∀ a c, π (f a c) = g (π a) c)
    (l : List γ) (a : α) : π (l.foldl f a) = l.foldl g (π a) := by
  induction l generalizing a with
  | nil => rfl
  | cons c l ih => rw [List.foldl_cons, List.foldl_cons, ih, h]

end LLTD
