/- From model effects to the observations the predicates are stated over; the specification's classifiers and its step by
   request kind (`specStep_req`, `specStep_pending`). -/
import LLTD.Lemmas.Handlers
import LLTD.Lemmas.Req
import LLTD.Lemmas.XVals
import LLTD.Spec.Block

namespace LLTD
open LLTD.Spec

/-- what the harness prints for a port call -/
def toObs : Fx → FxObs
  | .sleep ms => .sleep ms
  | .send ok _ f => .tx ok f

/-- the observation of one received buffer image on interface `c` -/
def obsOf (c : Cfg) (g : Glob) (img : List Nat) (fx : List Fx) : RxObs :=
  { cfg := c, glob := g, frame := img, fx := fx.map toObs }

theorem obsOf_frame (c : Cfg) (g : Glob) (img : List Nat) (fx : List Fx) : (obsOf c g img fx).frame = img := rfl
theorem obsOf_fx (c : Cfg) (g : Glob) (img : List Nat) (fx : List Fx) : (obsOf c g img fx).fx = fx.map toObs := rfl
theorem obsOf_cfg (c : Cfg) (g : Glob) (img : List Nat) (fx : List Fx) : (obsOf c g img fx).cfg = c := rfl
theorem obsOf_glob (c : Cfg) (g : Glob) (img : List Nat) (fx : List Fx) : (obsOf c g img fx).glob = g := rfl

theorem sends_map_single (ok : Bool) (i : Nat) (f : List Nat) : sends ([Fx.send ok i f].map toObs) = [f] := rfl
theorem sends_map_sleep_single (ms : Nat) (ok : Bool) (i : Nat) (f : List Nat) :
    sends ([Fx.sleep ms, Fx.send ok i f].map toObs) = [f] := rfl

/-! The documented field positions are the ones the model reads. -/

theorem spec_fTos (img : List Nat) : Spec.fTos img = LLTD.fTos img := by simp [Spec.fTos, LLTD.fTos]
theorem spec_fOp (img : List Nat) : Spec.fOp img = LLTD.fOpcode img := by simp [Spec.fOp, LLTD.fOpcode]
theorem spec_fRealSrc (img : List Nat) : Spec.fRealSrc img = LLTD.fRealSrc img := by simp [Spec.fRealSrc, LLTD.fRealSrc]
theorem spec_fEthSrc (img : List Nat) : Spec.fEthSrc img = LLTD.fEthSrc img := by simp [Spec.fEthSrc, LLTD.fEthSrc]
theorem spec_fEthDst (img : List Nat) : Spec.fEthDst img = LLTD.fEthDst img := by simp [Spec.fEthDst, LLTD.fEthDst]
theorem spec_fRealDst (img : List Nat) : Spec.fRealDst img = LLTD.fRealDst img := by simp [Spec.fRealDst, LLTD.fRealDst]
theorem spec_fSeq (img : List Nat) : Spec.fSeq img = LLTD.fSeq img := by simp [Spec.fSeq, LLTD.fSeq]
theorem spec_gen (img : List Nat) : unbe (slice img 32 2) = LLTD.fDiscGen img := by simp [LLTD.fDiscGen]

theorem respDest_spec (img : List Nat) :
    respDest img = if (Spec.fRealSrc img == Spec.fEthSrc img) = true then Spec.fRealSrc img else bcast := by
  rw [spec_fRealSrc, spec_fEthSrc]; rfl

/-- the shape of a per-frame clause: one demand on the frames it is about (`b`), another on all others -/
theorem guarded {b x y : Bool} (other : b = false → x = true) (about : b = true → y = true) :
    (if (!b) = true then x else y) = true :=
  ite_not_cases (P := fun v => v = true) other about

theorem isDiscover_iff (img : List Nat) : isDiscover img = true ↔ 36 ≤ img.length ∧ reqOf img = .discover := by
  simp only [isDiscover, spec_fTos, spec_fOp, Bool.and_eq_true, decide_eq_true_eq, beq_iff_eq, reqOf_discover]
  constructor
  · rintro ⟨⟨h1, h2⟩, h3⟩; exact ⟨h1, by omega, h3⟩
  · rintro ⟨h1, h2, h3⟩; exact ⟨⟨h1, by omega⟩, h3⟩

section classifiers
variable (img : List Nat) (h : 36 ≤ img.length)
include h

theorem isEmit_iff : isEmit img = true ↔ reqOf img = .emit := by
  simp [isEmit, show img.length ≥ 34 by omega, spec_fTos, spec_fOp, reqOf_emit]

theorem isQuery_iff : isQuery img = true ↔ reqOf img = .query := by
  simp [isQuery, show img.length ≥ 32 by omega, spec_fTos, spec_fOp, reqOf_query]

theorem isProbe_iff : isProbe img = true ↔ reqOf img = .probe := by
  simp [isProbe, show img.length ≥ 32 by omega, spec_fTos, spec_fOp, reqOf_probe]

theorem isReset0_iff : isReset0 img = true ↔ reqOf img = .reset0 := by
  simp [isReset0, show img.length ≥ 32 by omega, spec_fTos, spec_fOp, reqOf_reset0]

theorem isReset_iff : isReset img = true ↔ reqOf img = .reset0 ∨ reqOf img = .reset1 := by
  simp only [isReset, show img.length ≥ 32 by omega, spec_fTos, spec_fOp, reqOf_reset0, reqOf_reset1, decide_true, Bool.true_and,
    Bool.and_eq_true, decide_eq_true_eq, beq_iff_eq]
  omega

theorem isLarge_iff : isLarge img = true ↔ reqOf img = .large := by
  simp only [isLarge, show img.length ≥ 36 by omega, spec_fTos, spec_fOp, reqOf_large, decide_true, Bool.true_and,
    Bool.and_eq_true, decide_eq_true_eq, beq_iff_eq]
  omega

theorem isRequest_iff :
    isRequest img = true ↔ reqOf img = .discover ∨ reqOf img = .emit ∨ reqOf img = .query ∨ reqOf img = .large := by
  simp only [isRequest, Bool.or_eq_true, isDiscover_iff, isEmit_iff img h, isQuery_iff img h, isLarge_iff img h, h, true_and, or_assoc]

end classifiers

/-- the observation the specification records for a Probe/Train frame -/
def probeDesc (img : List Nat) : ObsDesc :=
  { typ := if fOpcode img = 4 then 1 else 0, realSrc := LLTD.fRealSrc img, src := LLTD.fEthSrc img, dst := LLTD.fEthDst img }

/-- the specification's reaction to a request of kind `r`: the arms of `specStep` -/
def specReact (own : List Nat) (dom : Nat) (g : Glob) (s : SpecSt) (f : List Nat) (rep : List ObsDesc) : Req → SpecSt
  | .discover => { s with mapper := if s.mapper = .none then .active (LLTD.fRealSrc f) (LLTD.fEthSrc f) else s.mapper }
  | .emit => { s with mapper := s.mapper.onCommand (LLTD.fRealSrc f) (LLTD.fEthSrc f) false }
  | .probe =>
    if (LLTD.fRealDst f != own) = true then s
    else if s.pending.any (fun p => obsKey p == obsKey (probeDesc f)) = true then s
    else if s.pending.length ≥ dom then { s with overflow := true }
    else { s with pending := probeDesc f :: s.pending }
  | .query => { s with mapper := s.mapper.onCommand (LLTD.fRealSrc f) (LLTD.fEthSrc f) true,
                       pending := rep.foldl (fun p d => removeFirst d p) s.pending }
  | .large =>
    -- byte 32 (= sizeofDemux + offQltlvType) is the type asked for, 0x0E the icon's
    if LLTD.fSeq f = 0 then s else
    { s with mapper := s.mapper.onCommand (LLTD.fRealSrc f) (LLTD.fEthSrc f) false,
             iconCache := if byteAt f 32 = 0x0E ∧ s.iconCache.isNone = true then iconFill g s.iconCache else s.iconCache }
  | .reset0 => { mapper := .none, pending := [], overflow := false, iconCache := none }
  | .reset1 => { s with mapper := .none }
  | .other => s

theorem specReact_probe_cases {P : SpecSt → Prop} (own : List Nat) (dom : Nat) (g : Glob) (s : SpecSt) (f : List Nat)
    (rep : List ObsDesc)
    (skip : (LLTD.fRealDst f != own) = true ∨ s.pending.any (fun p => obsKey p == obsKey (probeDesc f)) = true → P s)
    (over : (LLTD.fRealDst f != own) = false → s.pending.any (fun p => obsKey p == obsKey (probeDesc f)) = false →
      s.pending.length ≥ dom → P { s with overflow := true })
    (rec : (LLTD.fRealDst f != own) = false → s.pending.any (fun p => obsKey p == obsKey (probeDesc f)) = false →
      ¬ s.pending.length ≥ dom → P { s with pending := probeDesc f :: s.pending }) :
    P (specReact own dom g s f rep .probe) := by
  rw [specReact]
  exact bite_cases (fun h => skip (.inl h)) fun hn => bite_cases (fun h => skip (.inr h)) fun hd => ite_cases (over hn hd) (rec hn hd)

/-- on frames long enough to hold every header `specStep` classifies as the dispatcher does -/
theorem specStep_req (own : List Nat) (dom : Nat) (g : Glob) (s : SpecSt) (f : List Nat) (rep : List ObsDesc) (hl : 36 ≤ f.length) :
    specStep own dom g s f rep = specReact own dom g s f rep (reqOf f) := by
  have hd : isDiscover f = true ↔ reqOf f = .discover := (isDiscover_iff f).trans (and_iff_right hl)
  unfold specStep
  rw [if_neg (by omega)]
  simp only [isReset0_iff f hl, isReset_iff f hl, hd, isEmit_iff f hl, isQuery_iff f hl, isLarge_iff f hl, isProbe_iff f hl]
  -- for each request kind the chain of tests evaluates to one arm, and `Spec.fTos` … are by definition the model's accessors
  -- at the documented offsets: the arms not named below are those of `specReact` as they stand
  generalize reqOf f = r
  cases r
  case discover => obtain ⟨m, _, _, _⟩ := s; cases m <;> rfl
  case large =>
    show (if LLTD.fSeq f = 0 then s else _) = if LLTD.fSeq f = 0 then s else _
    by_cases hs : LLTD.fSeq f = 0
    · rw [if_pos hs, if_pos hs]
    rw [if_neg hs, if_neg hs]
    by_cases hi : byteAt f 32 = 0x0E ∧ s.iconCache.isNone = true
    · simp only [hi, and_self, if_true, iconFill]
      rcases g.icon with _ | _ | _
      · rfl
      · cases g.emptyBlock <;> rfl
      · rfl
    · simp only [hi, if_false]; rfl
  all_goals rfl

/-- what one frame may do to the pending observations: nothing, all discarded (topology Reset), the reported ones removed
    (Query), one added (Probe / Train) -/
def PendingStep (f : List Nat) (rep : List ObsDesc) (s s' : SpecSt) : Prop :=
  s'.pending = s.pending ∨ isReset0 f = true ∨ (isQuery f = true ∧ s'.pending = rep.foldl (fun p d => removeFirst d p) s.pending) ∨
    ∃ o, s'.pending = o :: s.pending

/-- on frames of any length -/
theorem specStep_pending (own : List Nat) (dom : Nat) (g : Glob) (s : SpecSt) (f : List Nat) (rep : List ObsDesc) :
    PendingStep f rep s (specStep own dom g s f rep) := by
  unfold specStep
  -- the tests in the order of `specStep`: too short, topology Reset, Reset, Discover, Emit, Query, QueryLargeTlv, Probe / Train
  refine ite_cases (fun _ => .inl rfl) fun _ => ite_cases (fun h => .inr (.inl h)) fun _ => ite_cases (fun _ => .inl rfl) fun _ =>
    ite_cases (fun _ => .inl rfl) fun _ => ite_cases (fun _ => .inl rfl) fun _ => ite_cases (fun h => .inr (.inr (.inl ⟨h, rfl⟩))) fun _ =>
    ite_cases (fun _ => ?large) fun _ => ite_cases (fun _ => ?probe) fun _ => .inl rfl
  case large =>
    -- a QueryLargeTlv touches the mapper and the icon cache only
    refine ite_cases (fun _ => .inl rfl) fun _ => ?_
    simp only []
    refine ite_cases (fun _ => ?_) fun _ => .inl rfl
    rcases g.icon with _ | _ | _
    · exact .inl rfl
    · exact ite_cases (fun _ => .inl rfl) fun _ => .inl rfl
    · exact .inl rfl
  case probe =>
    refine ite_cases (fun _ => .inl rfl) fun _ => ?_
    simp only []
    exact ite_cases (fun _ => .inl rfl) fun _ => ite_cases (fun _ => .inl rfl) fun _ => .inr (.inr (.inr ⟨_, rfl⟩))

end LLTD
