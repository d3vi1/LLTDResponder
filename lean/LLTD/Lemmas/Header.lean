/- The model's header writers against the independent decoder. -/
import LLTD.Model.Block
import LLTD.Spec.Decode
import LLTD.Lemmas.Bytes
import LLTD.Lemmas.XVals

namespace LLTD
open LLTD.Spec

theorem be2 (v : Nat) : be 2 v = [v / 256 % 256, v % 256] := by
  simp [be]

theorem lltdHeader_length {resv : Nat} {ed es rd rs : Mac} {seq op tos : Nat}
    (h1 : ed.length = 6) (h2 : es.length = 6) (h3 : rd.length = 6) (h4 : rs.length = 6) :
    (lltdHeader resv ed es rd rs seq op tos).length = 32 := by
  simp [lltdHeader, h1, h2, h3, h4]

/-- the independent decoder reads back exactly what setLltdHeaderEx wrote (any payload after it) -/
theorem decodeBase_lltdHeader {resv : Nat} {ed es rd rs : Mac} {seq op tos : Nat} {rest : List Nat}
    (h1 : ed.length = 6) (h2 : es.length = 6) (h3 : rd.length = 6) (h4 : rs.length = 6) :
    decodeBase (lltdHeader resv ed es rd rs seq op tos ++ rest) =
      some { ethDst := ed, ethSrc := es, etherType := 0x88D9, version := 1, tos := tos, reserved := resv, opcode := op,
             realDst := rd, realSrc := rs, seq := seq % 65536 } := by
  rw [decodeBase, if_neg (by rw [List.length_append, lltdHeader_length h1 h2 h3 h4]; omega)]
  -- field after field: drop the fields in front of it, then it is the prefix of what is left
  simp only [lltdHeader, List.append_assoc, slice_append_right, byteAt_append_right, slice_prefix, h1, h2, h3, h4, be_length,
    List.length_cons, List.length_nil, Nat.le_refl, Nat.reduceLeDiff, Nat.reduceSub, Nat.reduceAdd, unbe_be, X.etherType_val]
  simp [byteAt]

theorem decodeBase_fields (f : List Nat) (b : Base) (h : decodeBase f = some b) :
    fEthDst f = b.ethDst ∧ fEthSrc f = b.ethSrc ∧ fRealDst f = b.realDst ∧ fRealSrc f = b.realSrc ∧
    fOpcode f = b.opcode ∧ fTos f = b.tos ∧ fSeq f = b.seq := by
  unfold decodeBase at h
  split at h
  · cases h
  · cases h; exact ⟨rfl, rfl, rfl, rfl, rfl, rfl, rfl⟩

theorem fAddr_length (img : List Nat) (hl : 36 ≤ img.length) : (fRealSrc img).length = 6 ∧ (fEthSrc img).length = 6 :=
  ⟨slice_length _ _ _ (by simp; omega), slice_length _ _ _ (by simp; omega)⟩

/-- behind the model's header (EtherType, version, reserved 0, real source `own`) only length, opcode and payload are
    left for `wellFormed` to check; the word at offset 32 is the payload's first -/
theorem wellFormed_lltdHeader {own ed es rd : Mac} {mtu seq op tos : Nat} {rest : List Nat}
    (h1 : ed.length = 6) (h2 : es.length = 6) (h3 : rd.length = 6) (h4 : own.length = 6) :
    wellFormed own mtu (lltdHeader 0 ed es rd own seq op tos ++ rest) =
      (decide (32 + rest.length ≤ mtu) &&
       (if op = 3 ∨ op = 4 ∨ op = 5 then 32 + rest.length == 32
        else if op = 7 then decide (32 + rest.length ≥ 34) && 32 + rest.length == 34 + 20 * (unbe (slice rest 0 2) % 16384)
        else if op = 12 then decide (32 + rest.length ≥ 34) && 32 + rest.length == 34 + (unbe (slice rest 0 2) % 16384)
        else if op = 1 then helloWellFormed (lltdHeader 0 ed es rd own seq op tos ++ rest)
        else false)) := by
  have hl : (lltdHeader 0 ed es rd own seq op tos).length = 32 := lltdHeader_length h1 h2 h3 h4
  have hs : slice (lltdHeader 0 ed es rd own seq op tos ++ rest) 32 2 = slice rest 0 2 := slice_append_add _ _ _ 0 _ (by rw [hl])
  unfold wellFormed
  rw [decodeBase_lltdHeader h1 h2 h3 h4, hs, List.length_append, hl]
  simp only [beq_self_eq_true, Bool.and_true]

end LLTD
