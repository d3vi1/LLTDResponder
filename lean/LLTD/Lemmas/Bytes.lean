/- Byte-level lemmas: `be`/`unbe` round trip, slices of concatenations. -/
import LLTD.Model.Bytes

namespace LLTD

@[simp] theorem be_length (n v : Nat) : (be n v).length = n := by
  induction n generalizing v with
  | zero => rfl
  | succ k ih => simp [be, ih]

theorem unbe_append_single (bs : List Nat) (b : Nat) : unbe (bs ++ [b]) = unbe bs * 256 + b := by
  unfold unbe
  rw [List.foldl_append]
  rfl

theorem unbe_be (n v : Nat) : unbe (be n v) = v % 256 ^ n := by
  induction n generalizing v with
  | zero => simp [be, unbe, Nat.mod_one]
  | succ k ih =>
    -- the last byte is `v % 256`, the bytes before it are those of `v / 256`: `Nat.mod_mul`
    rw [be, unbe_append_single, ih, Nat.pow_succ, Nat.mul_comm (256 ^ k) 256, Nat.mod_mul]
    omega

theorem unbe_be_of_lt (n v : Nat) (h : v < 256 ^ n) : unbe (be n v) = v := by
  rw [unbe_be, Nat.mod_eq_of_lt h]

theorem be_isBytes (n v : Nat) : isBytes (be n v) := by
  induction n generalizing v with
  | zero => intro b hb; simp [be] at hb
  | succ k ih =>
    intro b hb
    simp only [be, List.mem_append, List.mem_singleton] at hb
    rcases hb with hb | hb
    · exact ih _ b hb
    · rw [hb]; exact Nat.mod_lt _ (by decide)

theorem unbe_lt (l : List Nat) (h : isBytes l) : unbe l < 256 ^ l.length := by
  have key : ∀ (l : List Nat), isBytes l → ∀ (acc n : Nat), acc < 256 ^ n →
      l.foldl (fun a b => a * 256 + b) acc < 256 ^ (n + l.length) := by
    intro l
    induction l with
    | nil => intro _ acc n ha; exact ha
    | cons b bs ih =>
      intro h acc n ha
      have hb : b < 256 := h b (by simp)
      have hs : acc * 256 + b < 256 ^ (n + 1) := by rw [Nat.pow_succ]; omega
      have := ih (fun x hx => h x (by simp [hx])) (acc * 256 + b) (n + 1) hs
      rw [List.foldl_cons, List.length_cons, ← Nat.add_assoc n, Nat.add_right_comm]; exact this
  have := key l h 0 0 (by decide)
  rwa [Nat.zero_add] at this

/-- a getter that fails stores the zero of its field: the round trip commutes with the fallback -/
theorem unbe_be_ite (n : Nat) (fail : Bool) (v : Nat) (h : v < 256 ^ n) :
    unbe (be n (if fail = true then 0 else v)) = if fail = true then 0 else v := by
  split
  · rw [unbe_be, Nat.zero_mod]
  · exact unbe_be_of_lt n v h

/-- the flag in bit 15 of a 14-bit count is added, not merged -/
theorem or_more_bit (n : Nat) (more : Bool) (hn : n < 16384) :
    n ||| (if more then 0x8000 else 0) = n + (if more then 32768 else 0) := by
  cases more with
  | false => simp
  | true =>
    have key := Nat.two_pow_add_eq_or_of_lt (i := 15) (b := n) (by omega) 1
    have e : (0x8000 : Nat) = 2 ^ 15 * 1 := by decide
    simp only [if_true]
    rw [e, Nat.or_comm, ← key]; omega

/-- the count word of a QueryResp: it fits 16 bits, its low 14 bits are the count, bit 15 is the flag -/
theorem countWord (n : Nat) (more : Bool) (hn : n < 16384) :
    n ||| (if more then 0x8000 else 0) < 65536 ∧ (n ||| (if more then 0x8000 else 0)) % 16384 = n ∧
      decide (n ||| (if more then 0x8000 else 0) ≥ 32768) = more := by
  rw [or_more_bit n more hn]
  cases more <;> simp <;> omega

theorem slice_all (l : List Nat) (n : Nat) (h : l.length = n) : slice l 0 n = l := by
  rw [slice, List.drop_zero, List.take_of_length_le (Nat.le_of_eq h)]

theorem slice_length_le (img : List Nat) (off n : Nat) : (slice img off n).length ≤ n := by
  unfold slice; simp [List.length_take]; omega

theorem slice_length (img : List Nat) (off n : Nat) (h : off + n ≤ img.length) : (slice img off n).length = n := by
  unfold slice; simp [List.length_take, List.length_drop]; omega

theorem slice_isBytes (img : List Nat) (off n : Nat) (h : isBytes img) : isBytes (slice img off n) := by
  intro b hb
  unfold slice at hb
  exact h b (List.mem_of_mem_drop (List.mem_of_mem_take hb))

theorem slice_append_left (a b : List Nat) (off n : Nat) (h : off + n ≤ a.length) : slice (a ++ b) off n = slice a off n := by
  unfold slice
  rw [List.drop_append_of_le_length (by omega)]
  rw [List.take_append_of_le_length (by simp [List.length_drop]; omega)]

/-- reading past a prefix: the offset is written `prefix length + k`, never subtracted -/
theorem slice_append_add (a b : List Nat) (off k n : Nat) (h : off = a.length + k) : slice (a ++ b) off n = slice b k n := by
  unfold slice
  rw [h, ← List.drop_drop, List.drop_left]

theorem slice_append_right' (a b : List Nat) (off n : Nat) (h : off = a.length) : slice (a ++ b) off n = b.take n :=
  slice_append_add a b off 0 n h

/-- `slice_append_add` for an offset given as a literal: `simp` discharges the bound and computes the difference, so a field behind
    several prefixes of known length is read by rewriting with this and `slice_prefix` alone -/
theorem slice_append_right (a b : List Nat) (off n : Nat) (h : a.length ≤ off) : slice (a ++ b) off n = slice b (off - a.length) n :=
  slice_append_add a b off (off - a.length) n (by omega)

theorem slice_prefix (b c : List Nat) (n : Nat) (h : n = b.length) : slice (b ++ c) 0 n = b := by
  unfold slice; rw [List.drop_zero, h, List.take_left]

theorem byteAt_append_left (a b : List Nat) (i : Nat) (h : i < a.length) : byteAt (a ++ b) i = byteAt a i := by
  unfold byteAt
  simp [List.getD_eq_getElem?_getD, List.getElem?_append_left h]

theorem byteAt_append_right (a b : List Nat) (i : Nat) (h : a.length ≤ i) : byteAt (a ++ b) i = byteAt b (i - a.length) := by
  unfold byteAt
  simp [List.getD_eq_getElem?_getD, List.getElem?_append_right h]

theorem byteAt_pad (h : List Nat) (k i : Nat) : byteAt (h ++ zeros k) i = if i < h.length then byteAt h i else 0 := by
  by_cases hi : i < h.length
  · rw [if_pos hi]; exact byteAt_append_left _ _ _ hi
  · rw [if_neg hi, byteAt_append_right _ _ _ (Nat.le_of_not_lt hi)]
    unfold byteAt zeros
    rw [List.getD_eq_getElem?_getD, List.getElem?_replicate]
    split <;> rfl

theorem unbe_slice_two_lt (img : List Nat) (off : Nat) (h : isBytes img) : unbe (slice img off 2) < 65536 :=
  Nat.lt_of_lt_of_le (unbe_lt _ (slice_isBytes img off 2 h))
    (Nat.pow_le_pow_right (by decide) (slice_length_le img off 2) : 256 ^ (slice img off 2).length ≤ 256 ^ 2)

theorem rdOk_of_le (img : List Nat) (off n : Nat) (h : off + n ≤ img.length) : rdOk img off n = true := by
  unfold rdOk; exact decide_eq_true h

theorem drop_append_append {a b c : List Nat} {n : Nat} (h : n = a.length + b.length) : (a ++ (b ++ c)).drop n = c := by
  rw [← List.append_assoc, List.drop_left' (by rw [List.length_append, h])]

theorem length_flatMap_const {α : Type} (f : α → List Nat) (r : Nat) (l : List α) (h : ∀ x ∈ l, (f x).length = r) :
    (l.flatMap f).length = r * l.length := by
  induction l with
  | nil => rfl
  | cons x xs ih =>
    rw [List.flatMap_cons, List.length_append, h x (by simp), ih (fun y hy => h y (by simp [hy])), List.length_cons,
      Nat.mul_succ, Nat.add_comm]

theorem slice_flatMap_const {α : Type} (f : α → List Nat) (r : Nat) (l : List α) (h : ∀ x ∈ l, (f x).length = r)
    (i : Nat) (hi : i < l.length) (k n : Nat) (hk : k + n ≤ r) :
    slice (l.flatMap f) (r * i + k) n = slice (f l[i]) k n := by
  induction l generalizing i with
  | nil => exact absurd hi (Nat.not_lt_zero _)
  | cons x xs ih =>
    have hx := h x (by simp)
    rw [List.flatMap_cons]
    cases i with
    | zero => rw [Nat.mul_zero, Nat.zero_add]; exact slice_append_left _ _ k n (by rw [hx]; exact hk)
    | succ j =>
      rw [slice_append_add _ _ _ (r * j + k) _ (by rw [hx, Nat.mul_succ]; omega)]
      exact ih (fun y hy => h y (by simp [hy])) j (by simpa using hi)

end LLTD
