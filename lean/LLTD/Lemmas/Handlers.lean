/-
  The outcomes of each frame handler of Model/Block.lean as a case principle (`h_cases`: whatever holds of every outcome of
  `h` holds of `h`; the outcomes are all there are, each with the full condition it is reached under - the loop arm of
  `parseEmit_cases` hands over `emitLoop` as it stands), the descriptor loop of parseEmit as an induction principle
  (`emitLoop_walk`), parseQueryLargeTlv in the normal form fetch / respond / release (`parseQueryLargeTlv_eq`), parseProbe and
  parseEmit in closed form over what they read of the record (`parseProbe_eq`, `parseEmit_eq`).  The layers above (fault
  schedule, ledger, record invariant, what is sent, mapper refinement) are proved per handler by applying its principle, never
  by unfolding the handler again.
-/
import LLTD.Model.Block

namespace LLTD

/-! A branch of the C code as a rule: what holds of both arms, each under the answer of the test, holds of the `if`.  For a
    test on a `Bool` the negative arm gets `b = false`; `ite_not_cases` is the idiom `if (!ok) … else …`. -/

theorem ite_cases {α : Sort _} {P : α → Prop} {p : Prop} [Decidable p] {x y : α} (yes : p → P x) (no : ¬ p → P y) :
    P (if p then x else y) := by
  by_cases h : p
  · rw [if_pos h]; exact yes h
  · rw [if_neg h]; exact no h

theorem bite_cases {α : Sort _} {P : α → Prop} {b : Bool} {x y : α} (yes : b = true → P x) (no : b = false → P y) :
    P (if b = true then x else y) := by
  cases b
  · exact no rfl
  · exact yes rfl

theorem ite_not_cases {α : Sort _} {P : α → Prop} {b : Bool} {x y : α} (no : b = false → P x) (yes : b = true → P y) :
    P (if (!b) = true then x else y) := by
  cases b
  · exact no rfl
  · exact yes rfl

/-- the record once parseEmit / parseQueryLargeTlv has noted the command it received -/
def cmdSt (st : St) (img : List Nat) : St := setActiveMapper { st with seq := fSeq img } (fRealSrc img) (fEthSrc img)

theorem malloc_fst (w : World) (n : Nat) :
    (w.malloc n).1 =
      if (w.malloc n).2 = true then { w with mallocCalls := w.mallocCalls + 1, live := w.live + 1, bytes := w.bytes + n }
      else { w with mallocCalls := w.mallocCalls + 1 } := by
  unfold World.malloc; simp only []; split <;> simp

namespace C06
/-- the frames sendProbeMsg builds -/
def probeFrame (c : Cfg) (src dst : Mac) (ty : Nat) : List Nat :=
  lltdHeader 0 dst src dst c.ourMac 0 (if ty = 1 then X.opProbe else X.opTrain) X.tosDiscovery
def ackFrame (c : Cfg) (st : St) : List Nat :=
  lltdHeader 0 st.mapperApparent c.ourMac st.mapperReal c.ourMac st.seq X.opAck X.tosDiscovery
end C06

theorem sendProbeMsg_cases {P : World × List Fx → Prop} (c : Cfg) (st : St) (w : World) (fx : List Fx) (src dst : Mac)
    (pause ty : Nat) (ack : Bool)
    (nomem : (w.malloc X.sizeofDemux).2 = false → P ((w.malloc X.sizeofDemux).1, fx))
    (probe : (w.malloc X.sizeofDemux).2 = true → (w.malloc X.sizeofDemux).1.send.2 = false ∨ ack = false →
      P ((w.malloc X.sizeofDemux).1.send.1.free X.sizeofDemux,
         fx ++ [Fx.sleep pause, Fx.send (w.malloc X.sizeofDemux).1.send.2 c.idx (C06.probeFrame c src dst ty)]))
    (acked : (w.malloc X.sizeofDemux).2 = true → (w.malloc X.sizeofDemux).1.send.2 = true → ack = true →
      P ((w.malloc X.sizeofDemux).1.send.1.send.1.free X.sizeofDemux,
         fx ++ [Fx.sleep pause, Fx.send true c.idx (C06.probeFrame c src dst ty),
                Fx.send (w.malloc X.sizeofDemux).1.send.1.send.2 c.idx (C06.ackFrame c st)])) :
    P (sendProbeMsg c st w fx src dst pause ty ack) := by
  unfold sendProbeMsg
  simp only [sendFx, List.append_assoc, List.cons_append, List.nil_append]
  refine ite_not_cases nomem fun hm => ite_not_cases (fun hs => probe hm (.inl hs)) fun hs =>
    bite_cases (fun ha => ?_) fun ha => probe hm (.inr ha)
  rw [hs]; exact acked hm hs ha

/-- where descriptor `i` sits in the image (the C code keeps the offset in a uint16_t) -/
def emitOff (i : Nat) : Nat := X.sizeofDemux + X.sizeofEmitHdr + (i * X.sizeofEmitee) % u16

def emitStep (c : Cfg) (st : St) (img : List Nat) (n i : Nat) (w : World) (fx : List Fx) : World × List Fx :=
  if byteAt img (emitOff i + X.offEmiteeType) = 1 ∨ byteAt img (emitOff i + X.offEmiteeType) = 0 then
    sendProbeMsg c st w fx (slice img (emitOff i + X.offEmiteeSrc) 6) (slice img (emitOff i + X.offEmiteeDst) 6)
      (byteAt img (emitOff i + X.offEmiteePause)) (byteAt img (emitOff i + X.offEmiteeType)) (i + 1 = n)
  else (w, fx)

theorem emitLoop_succ (c : Cfg) (st : St) (img : List Nat) (n k i : Nat) (w : World) (fx : List Fx) :
    emitLoop c st img n (k + 1) i w fx =
      if rdOk img (emitOff i) X.sizeofEmitee = true then
        emitLoop c st img n k (i + 1) (emitStep c st img n i w fx).1 (emitStep c st img n i w fx).2
      else (w, fx, some (.oobRead "parseEmit.descriptor")) := by
  rw [emitLoop]
  unfold emitStep emitOff
  cases rdOk img (X.sizeofDemux + X.sizeofEmitHdr + i * X.sizeofEmitee % u16) X.sizeofEmitee <;> simp

/-- an invariant `Q j w fx` of one pass holds where the loop stops: at `i + k` without a fault, or at the first descriptor that
    does not lie inside the image -/
theorem emitLoop_walk {Q : Nat → World → List Fx → Prop} (c : Cfg) (st : St) (img : List Nat) (n : Nat) :
    ∀ (k i : Nat) (w : World) (fx : List Fx),
      (∀ j w fx, i ≤ j → j < i + k → rdOk img (emitOff j) X.sizeofEmitee = true → Q j w fx →
        Q (j + 1) (emitStep c st img n j w fx).1 (emitStep c st img n j w fx).2) →
      Q i w fx →
      ∃ j, i ≤ j ∧ Q j (emitLoop c st img n k i w fx).1 (emitLoop c st img n k i w fx).2.1 ∧
        (j = i + k ∧ (emitLoop c st img n k i w fx).2.2 = none ∨ j < i + k ∧ rdOk img (emitOff j) X.sizeofEmitee = false) := by
  intro k
  induction k with
  | zero => intro i w fx _ h; exact ⟨i, Nat.le_refl _, h, .inl ⟨rfl, rfl⟩⟩
  | succ k ih =>
    intro i w fx step h
    rw [emitLoop_succ]
    by_cases hrd : rdOk img (emitOff i) X.sizeofEmitee = true
    · rw [if_pos hrd]
      obtain ⟨j, hij, hq, hj⟩ := ih (i + 1) _ _ (fun j w fx h1 h2 => step j w fx (by omega) (by omega))
        (step i w fx (Nat.le_refl _) (by omega) hrd h)
      exact ⟨j, by omega, hq, hj.imp (fun h => ⟨by omega, h.2⟩) (fun h => ⟨by omega, h.2⟩)⟩
    · rw [if_neg hrd]; exact ⟨i, Nat.le_refl _, h, .inr ⟨by omega, by simpa using hrd⟩⟩

theorem emitLoop_ind {Q : World → List Fx → Prop} (c : Cfg) (st : St) (img : List Nat) (n : Nat)
    (step : ∀ {w fx off pause ty ack}, rdOk img off X.sizeofEmitee = true → Q w fx →
      Q (sendProbeMsg c st w fx (slice img (off + X.offEmiteeSrc) 6) (slice img (off + X.offEmiteeDst) 6) pause ty ack).1
        (sendProbeMsg c st w fx (slice img (off + X.offEmiteeSrc) 6) (slice img (off + X.offEmiteeDst) 6) pause ty ack).2)
    (k i : Nat) (w : World) (fx : List Fx) (h : Q w fx) : Q (emitLoop c st img n k i w fx).1 (emitLoop c st img n k i w fx).2.1 := by
  obtain ⟨_, -, hq, -⟩ := emitLoop_walk (Q := fun _ => Q) c st img n k i w fx (fun j w fx _ _ hrd h => by
    unfold emitStep; split
    · exact step hrd h
    · exact h) h
  exact hq

theorem parseEmit_cases {P : Out → Prop} (c : Cfg) (w : World) (st : St) (img : List Nat)
    (nomtu : c.failMtu = true ∨ c.mtu < X.sizeofDemux + X.sizeofEmitHdr → P { st := st, w := w, fx := [] })
    (short : ¬ (c.failMtu = true ∨ c.mtu < X.sizeofDemux + X.sizeofEmitHdr) → rdOk img X.sizeofDemux 2 = false →
      P { st := cmdSt st img, w := w, fx := [], fault := some (.oobRead "parseEmit.numDescs") })
    (loop : ¬ (c.failMtu = true ∨ c.mtu < X.sizeofDemux + X.sizeofEmitHdr) → rdOk img X.sizeofDemux 2 = true →
      ∀ n, n = min (unbe (slice img X.sizeofDemux 2)) ((c.mtu - X.sizeofDemux - X.sizeofEmitHdr) / X.sizeofEmitee) →
      P { st := cmdSt st img, w := (emitLoop c (cmdSt st img) img n n 0 w []).1, fx := (emitLoop c (cmdSt st img) img n n 0 w []).2.1,
          fault := (emitLoop c (cmdSt st img) img n n 0 w []).2.2 }) :
    P (parseEmit c w st img) := by
  unfold parseEmit
  simp only []
  refine ite_cases nomtu fun hmtu => ite_not_cases (short hmtu) fun hrd => ?_
  -- the clamp of the declared count is `min`
  have := loop hmtu hrd _ rfl
  rw [Nat.min_def] at this
  by_cases hd : unbe (slice img X.sizeofDemux 2) > (c.mtu - X.sizeofDemux - X.sizeofEmitHdr) / X.sizeofEmitee
  · rw [if_pos hd]; rwa [if_neg (by omega)] at this
  · rw [if_neg hd]; rwa [if_pos (by omega)] at this

/-- parseEmit behind its MTU test, as a function of the record `s` that has noted the command: it reads no other -/
def emitRes (c : Cfg) (w : World) (s : St) (img : List Nat) : Out :=
  if rdOk img X.sizeofDemux 2 = false then { st := s, w := w, fx := [], fault := some (.oobRead "parseEmit.numDescs") }
  else
    let n := min (unbe (slice img X.sizeofDemux 2)) ((c.mtu - X.sizeofDemux - X.sizeofEmitHdr) / X.sizeofEmitee)
    { st := s, w := (emitLoop c s img n n 0 w []).1, fx := (emitLoop c s img n n 0 w []).2.1, fault := (emitLoop c s img n n 0 w []).2.2 }

theorem parseEmit_eq (c : Cfg) (w : World) (st : St) (img : List Nat) :
    parseEmit c w st img =
      if c.failMtu = true ∨ c.mtu < X.sizeofDemux + X.sizeofEmitHdr then { st := st, w := w, fx := [] }
      else emitRes c w (cmdSt st img) img := by
  refine parseEmit_cases (P := fun o => o = _) c w st img (fun hnomtu => ?_) (fun hmtu hshort => ?_) (fun hmtu hrd n hn => ?_)
  · rw [if_pos hnomtu]
  · rw [if_neg hmtu, emitRes, if_pos hshort]
  · rw [if_neg hmtu, emitRes, if_neg (by rw [hrd]; exact Bool.noConfusion), hn]

/-- the record as answerHello leaves it once it has its buffer -/
def helloSt (st : St) (img : List Nat) : St :=
  let s := { setActiveMapper st (fRealSrc img) (fEthSrc img) with seq := fSeq img }
  if fTos img = X.tosQuick then { s with genQuick := helloGen st img } else { s with genTopo := helloGen st img }

theorem answerHello_cases {P : Out → Prop} (c : Cfg) (g : Glob) (w : World) (st : St) (img : List Nat)
    (nomem : (w.malloc c.mtuEff).2 = false → P { st := st, w := (w.malloc c.mtuEff).1, fx := [] })
    (long : (w.malloc c.mtuEff).2 = true →
      (helloFrame c g (helloGen st img) (fTos img) (fRealSrc img) (fEthSrc img)).length > c.mtuEff →
      P { st := helloSt st img, w := (w.malloc c.mtuEff).1, fx := [], fault := some (.oobWrite "answerHello.buffer") })
    (hello : (w.malloc c.mtuEff).2 = true →
      ¬ (helloFrame c g (helloGen st img) (fTos img) (fRealSrc img) (fEthSrc img)).length > c.mtuEff →
      P { st := helloSt st img, w := (w.malloc c.mtuEff).1.send.1.free c.mtuEff,
          fx := [Fx.send (w.malloc c.mtuEff).1.send.2 c.idx
                  (helloFrame c g (helloGen st img) (fTos img) (fRealSrc img) (fEthSrc img))] }) :
    P (answerHello c g w st img) := by
  unfold answerHello
  simp only [sendFx]
  exact ite_not_cases nomem fun hm => ite_cases (long hm) (hello hm)

namespace C07
/-- the observation parseProbe builds from a frame -/
def obsOfFrame (img : List Nat) : Obs :=
  { typ := if fOpcode img = X.opProbe then 1 else 0, realSrc := fRealSrc img, src := fEthSrc img, dst := fEthDst img }
end C07

theorem parseProbe_cases {P : Out → Prop} (c : Cfg) (w : World) (st : St) (img : List Nat)
    (idle : (fRealDst img != c.ourMac) = true ∨ seesFull st.count = true → P { st := st, w := w, fx := [] })
    (nomem : (fRealDst img != c.ourMac) = false → seesFull st.count = false → (w.malloc X.nodeBytes).2 = false →
      P { st := st, w := (w.malloc X.nodeBytes).1, fx := [] })
    (known : (fRealDst img != c.ourMac) = false → seesFull st.count = false → (w.malloc X.nodeBytes).2 = true →
      st.sees.any (fun p => fEthSrc img == p.src && fRealSrc img == p.realSrc) = true →
      P { st := st, w := (w.malloc X.nodeBytes).1.free X.nodeBytes, fx := [] })
    (recorded : (fRealDst img != c.ourMac) = false → seesFull st.count = false → (w.malloc X.nodeBytes).2 = true →
      st.sees.any (fun p => fEthSrc img == p.src && fRealSrc img == p.realSrc) = false →
      P { st := { st with sees := C07.obsOfFrame img :: st.sees, count := (st.count + 1) % u32 },
          w := (w.malloc X.nodeBytes).1, fx := [] }) :
    P (parseProbe c w st img) := by
  unfold parseProbe
  simp only []
  exact bite_cases (fun h => idle (.inl h)) fun h1 => bite_cases (fun h => idle (.inr h)) fun h2 =>
    ite_not_cases (nomem h1 h2) fun hm => bite_cases (known h1 h2 hm) (recorded h1 h2 hm)

/-- what parseProbe makes of the observation list, its count and the world: it reads nothing else of the record -/
def probeRes (c : Cfg) (w : World) (sees : List Obs) (count : Nat) (img : List Nat) : List Obs × Nat × World :=
  if (fRealDst img != c.ourMac) = true ∨ seesFull count = true then (sees, count, w)
  else if (w.malloc X.nodeBytes).2 = false then (sees, count, (w.malloc X.nodeBytes).1)
  else if sees.any (fun p => fEthSrc img == p.src && fRealSrc img == p.realSrc) = true then
    (sees, count, (w.malloc X.nodeBytes).1.free X.nodeBytes)
  else (C07.obsOfFrame img :: sees, (count + 1) % u32, (w.malloc X.nodeBytes).1)

theorem parseProbe_eq (c : Cfg) (w : World) (st : St) (img : List Nat) :
    parseProbe c w st img =
      { st := { st with sees := (probeRes c w st.sees st.count img).1, count := (probeRes c w st.sees st.count img).2.1 },
        w := (probeRes c w st.sees st.count img).2.2, fx := [] } := by
  unfold probeRes
  refine parseProbe_cases (P := fun o => o = _) c w st img (fun hidle => ?_) (fun h1 h2 hm => ?_) (fun h1 h2 hm hdup => ?_)
    (fun h1 h2 hm hnew => ?_)
  · rw [if_pos hidle]
  · rw [if_neg (by rw [h1, h2]; simp), if_pos hm]
  · rw [if_neg (by rw [h1, h2]; simp), if_neg (by rw [hm]; simp), if_pos hdup]
  · rw [if_neg (by rw [h1, h2]; simp), if_neg (by rw [hm]; simp), if_neg (by rw [hnew]; simp)]

theorem parseProbe_fx (c : Cfg) (w : World) (st : St) (img : List Nat) : (parseProbe c w st img).fx = [] :=
  congrArg Out.fx (parseProbe_eq c w st img)

/-- the record once a Query has made its sender the mapper -/
def querySt (st : St) (img : List Nat) : St :=
  { st with seq := fSeq img, mapperReal := fRealSrc img, mapperApparent := fEthSrc img, known := true }

theorem parseQuery_cases {P : Out → Prop} (c : Cfg) (w : World) (st : St) (img : List Nat)
    (nomem : (w.malloc c.mtuEff).2 = false → P { st := querySt st img, w := (w.malloc c.mtuEff).1, fx := [] })
    (tiny : (w.malloc c.mtuEff).2 = true → X.sizeofDemux + X.sizeofQryRespHdr > c.mtuEff →
      P { st := querySt st img, w := (w.malloc c.mtuEff).1, fx := [], fault := some (.oobWrite "parseQuery.header") })
    (answered : (w.malloc c.mtuEff).2 = true → ¬ X.sizeofDemux + X.sizeofQryRespHdr > c.mtuEff →
      ∀ num r, num = queryNum st.count c.mtuEff → r = queryLoop c.mtuEff st.sees num (X.sizeofDemux + X.sizeofQryRespHdr) →
      P { st := { querySt st img with sees := st.sees.drop r.2, count := if (st.sees.drop r.2).isEmpty then 0 else st.count - r.2 },
          w := freeNodes ((w.malloc c.mtuEff).1.send.1.free c.mtuEff) r.2,
          fx := [Fx.send (w.malloc c.mtuEff).1.send.2 c.idx (queryFrame c img (fSeq img) num (decide (st.count > num)) r.1)] }) :
    P (parseQuery c w st img) := by
  unfold parseQuery
  simp only [sendFx]
  exact ite_not_cases nomem fun hm => ite_cases (tiny hm) fun ht => answered hm ht _ _ rfl rfl

theorem respFields_bounds (p : Nat) (data : Option (List Nat)) (off : Nat) :
    (respFields p data off).1 ≤ p ∧
    ((respFields p data off).1 > 0 → off + (respFields p data off).1 ≤ optLen data) := by
  cases data with
  | none => simp [respFields]
  | some d =>
    simp only [respFields, optLen, Option.isNone_some, Bool.false_eq_true, false_or]
    by_cases h0 : d.length = 0
    · simp [h0]
    · simp only [h0, if_false]
      by_cases h1 : d.length > off + p
      · simp only [h1, if_true]
        exact ⟨Nat.le_refl _, fun _ => by omega⟩
      · simp only [h1, if_false]
        by_cases h2 : d.length > off
        · simp only [h2, if_true]
          have hle : (d.length - off) % u16 ≤ d.length - off := Nat.mod_le _ _
          exact ⟨by omega, fun _ => by omega⟩
        · simp [h2]

theorem respFields_getD (p : Nat) (dm : Option (List Nat)) (off : Nat) : respFields p dm off = respFields p (some (dm.getD [])) off := by
  cases dm with
  | none => simp [respFields, optLen]
  | some d => rfl

theorem respFields_lt (p : Nat) (dm : Option (List Nat)) (off : Nat) : (respFields p dm off).2 < 65536 := by
  have h : ∀ x, x % u16 < 65536 := fun x => Nat.mod_lt x (by decide)
  unfold respFields
  simp only []
  split
  · decide
  · split
    · exact h _
    · split
      · exact h _
      · decide

/-- the payload one QueryLargeTlvResp can carry -/
def largePayload (c : Cfg) : Nat :=
  if c.mtuEff > X.sizeofDemux + X.sizeofQltlvResp then (c.mtuEff - (X.sizeofDemux + X.sizeofQltlvResp)) % u16 else 0

/-- the buffer sendLargeTlvResponse asks for -/
def largeBuf (c : Cfg) : Nat := X.sizeofDemux + X.sizeofQltlvResp + largePayload c

/-- sendLargeTlvResponse either gets no buffer or sends one frame: by `respFields_bounds` neither bounds check can fail -/
theorem sendLarge_cases {P : Out → Prop} (c : Cfg) (w : World) (st : St) (img : List Nat) (data : Option (List Nat)) (off : Nat)
    (nomem : (w.malloc (largeBuf c)).2 = false → P { st := st, w := (w.malloc (largeBuf c)).1, fx := [] })
    (answered : (w.malloc (largeBuf c)).2 = true →
      P { st := st, w := (w.malloc (largeBuf c)).1.send.1.free (largeBuf c),
          fx := [Fx.send (w.malloc (largeBuf c)).1.send.2 c.idx
                  (largeFrame c (respDest img) st.seq (respFields (largePayload c) data off).2
                    (slice (data.getD []) off (respFields (largePayload c) data off).1))] }) :
    P (sendLargeTlvResponse c w st img data off) := by
  have hb := respFields_bounds (largePayload c) data off
  unfold sendLargeTlvResponse
  simp only [sendFx]
  rw [show (if c.mtuEff > X.sizeofDemux + X.sizeofQltlvResp then (c.mtuEff - (X.sizeofDemux + X.sizeofQltlvResp)) % u16 else 0) =
    largePayload c from rfl, show X.sizeofDemux + X.sizeofQltlvResp + largePayload c = largeBuf c from rfl]
  refine ite_not_cases nomem fun hm => ?_
  rw [if_neg (fun h => by have := hb.2 h.1; omega), if_neg (by have := hb.1; unfold largeBuf; omega)]
  have := answered hm
  cases data <;> exact this

def release (w : World) : Option Nat → World
  | some n => w.free n
  | none => w

/-- What an arm of parseQueryLargeTlv has fetched when it calls sendLargeTlvResponse: the world and the record after the fetch,
    the data (`none` = NULL), and the size of the block it releases after the response, if any. -/
structure Fetched where
  w    : World
  st   : St
  data : Option (List Nat) := none
  rel  : Option Nat := none

/-- what an icon request leaves in an empty cache `cur` (the empty icon: see `qltlvIcon`) -/
def iconFill (g : Glob) (cur : Option (List Nat)) : Option (List Nat) :=
  match g.icon with
  | some (b :: bs) => some (b :: bs)
  | some [] => if g.emptyBlock then some [] else cur
  | none => cur

/-- the icon is fetched into the record's cache on first use and served from there (the Reset releases it) -/
def fetchIcon (g : Glob) (w : World) (st : St) : Fetched :=
  match st.icon with
  | some ic => { w := w, st := st, data := some ic }
  | none =>
    match iconFill g none with
    | some d => { w := w.rawAlloc d.length, st := { st with icon := some d }, data := some d }
    | none => { w := w, st := st }

def fetchFname (g : Glob) (w : World) (st : St) : Fetched :=
  match g.fname with
  | some (b :: bs) => { w := w.rawAlloc (b :: bs).length, st := st, data := some (b :: bs), rel := some (b :: bs).length }
  | _ => { w := w, st := st }

def fetchHwid (g : Glob) (w : World) (st : St) : Fetched :=
  if (w.malloc 64).2 then { w := (w.malloc 64).1, st := st, data := some (hwidData g), rel := some 64 }
  else { w := (w.malloc 64).1, st := st }

def largeFetch (g : Glob) (w : World) (st : St) (ty : Nat) : Fetched :=
  if ty = X.tlvIconImage then fetchIcon g w st
  else if ty = X.tlvFriendlyName then fetchFname g w st
  else if ty = X.tlvHwId then fetchHwid g w st
  else { w := w, st := st }

def respond (c : Cfg) (img : List Nat) (off : Nat) (f : Fetched) : Out :=
  let o := sendLargeTlvResponse c f.w f.st img f.data off
  match f.rel with
  | some n => { o with w := o.w.free n }
  | none => o

theorem qltlvIcon_eq (c : Cfg) (g : Glob) (w : World) (st : St) (img : List Nat) (off : Nat) :
    qltlvIcon c g w st img off = respond c img off (fetchIcon g w st) := by
  obtain ⟨_, _, _, _, _, _, _, _, _ | ic⟩ := st
  · obtain ⟨_, _, _, _ | _ | _, _, _ | _⟩ := g <;> rfl
  · rfl

theorem qltlvFname_eq (c : Cfg) (g : Glob) (w : World) (st : St) (img : List Nat) (off : Nat) :
    qltlvFname c g w st img off = respond c img off (fetchFname g w st) := by
  obtain ⟨_, _, _, _, _ | _ | _, _⟩ := g <;> rfl

theorem qltlvHwid_eq (c : Cfg) (g : Glob) (w : World) (st : St) (img : List Nat) (off : Nat) :
    qltlvHwid c g w st img off = respond c img off (fetchHwid g w st) := by
  unfold qltlvHwid fetchHwid
  cases h : (w.malloc 64).2 <;> simp [h, respond]

theorem parseQueryLargeTlv_eq (c : Cfg) (g : Glob) (w : World) (st : St) (img : List Nat) :
    parseQueryLargeTlv c g w st img =
      if fSeq img = 0 then { st := st, w := w, fx := [] } else
      respond c img (unbe (slice img (X.sizeofDemux + X.offQltlvOffset) 2))
        (largeFetch g w (cmdSt st img) (byteAt img (X.sizeofDemux + X.offQltlvType))) := by
  unfold parseQueryLargeTlv largeFetch
  -- each arm is `respond` of what it fetches (the last: of nothing, by computation), so `respond` moves out of the tests on the type
  simp only [qltlvIcon_eq, qltlvFname_eq, qltlvHwid_eq, apply_ite (respond c img _)]
  rfl

theorem respond_cases {P : Out → Prop} (c : Cfg) (img : List Nat) (off : Nat) (f : Fetched)
    (nomem : (f.w.malloc (largeBuf c)).2 = false → P { st := f.st, w := release (f.w.malloc (largeBuf c)).1 f.rel, fx := [] })
    (answered : (f.w.malloc (largeBuf c)).2 = true →
      P { st := f.st, w := release ((f.w.malloc (largeBuf c)).1.send.1.free (largeBuf c)) f.rel,
          fx := [Fx.send (f.w.malloc (largeBuf c)).1.send.2 c.idx
                  (largeFrame c (respDest img) f.st.seq (respFields (largePayload c) f.data off).2
                    (slice (f.data.getD []) off (respFields (largePayload c) f.data off).1))] }) :
    P (respond c img off f) := by
  obtain ⟨w, st, data, rel⟩ := f
  unfold respond
  cases rel with
  | none => exact sendLarge_cases c w st img data off nomem answered
  | some k => exact sendLarge_cases (P := fun o => P { o with w := o.w.free k }) c w st img data off nomem answered

theorem respond_st (c : Cfg) (img : List Nat) (off : Nat) (f : Fetched) : (respond c img off f).st = f.st :=
  respond_cases (P := fun o => o.st = f.st) c img off f (fun _ => rfl) (fun _ => rfl)

theorem largeFetch_cases {P : Fetched → Prop} (g : Glob) (w : World) (st : St) (ty : Nat)
    (cached : ∀ ic, ty = X.tlvIconImage → st.icon = some ic → P { w := w, st := st, data := some ic })
    (filled : ∀ d, ty = X.tlvIconImage → st.icon = none → iconFill g none = some d →
      P { w := w.rawAlloc d.length, st := { st with icon := some d }, data := some d })
    (noicon : ty = X.tlvIconImage → st.icon = none → iconFill g none = none → P { w := w, st := st })
    (fname : ∀ d, ty = X.tlvFriendlyName → d ≠ [] → g.fname = some d →
      P { w := w.rawAlloc d.length, st := st, data := some d, rel := some d.length })
    (nofname : ty = X.tlvFriendlyName → g.fname.getD [] = [] → P { w := w, st := st })
    (hwid : ty = X.tlvHwId → (w.malloc 64).2 = true → P { w := (w.malloc 64).1, st := st, data := some (hwidData g), rel := some 64 })
    (nohwid : ty = X.tlvHwId → (w.malloc 64).2 = false → P { w := (w.malloc 64).1, st := st })
    (other : ty ≠ X.tlvIconImage → ty ≠ X.tlvFriendlyName → ty ≠ X.tlvHwId → P { w := w, st := st }) :
    P (largeFetch g w st ty) := by
  unfold largeFetch
  refine ite_cases (fun hi => ?icon) fun hi => ite_cases (fun hf => ?fname) fun hf => ite_cases (fun hh => ?hwid) (other hi hf)
  case icon =>
    unfold fetchIcon
    cases h : st.icon with
    | some ic => exact cached ic hi h
    | none =>
      cases hd : iconFill g none with
      | some d => exact filled d hi h hd
      | none => exact noicon hi h hd
  case fname =>
    unfold fetchFname
    rcases hg : g.fname with _ | _ | ⟨b, bs⟩
    · exact nofname hf (by rw [hg]; rfl)
    · exact nofname hf (by rw [hg]; rfl)
    · exact fname _ hf (List.cons_ne_nil _ _) hg
  case hwid =>
    unfold fetchHwid
    exact bite_cases (hwid hh) (nohwid hh)

theorem largeFetch_st (g : Glob) (w : World) (st : St) (ty : Nat) :
    (largeFetch g w st ty).st =
      { st with icon := if ty = X.tlvIconImage ∧ st.icon.isNone = true then iconFill g st.icon else st.icon } := by
  have e : ∀ v, st.icon = v → st = { st with icon := v } := fun v h => by subst h; rfl
  have other : ty ≠ X.tlvIconImage → st = { st with icon := if ty = X.tlvIconImage ∧ st.icon.isNone = true then iconFill g st.icon else st.icon } :=
    fun h => e _ (if_neg fun hh => h hh.1).symm
  refine largeFetch_cases (P := fun f => f.st = _) g w st ty ?_ ?_ ?_ ?_ ?_ ?_ ?_ ?_
  · intro ic _ h; exact e _ (by simp [h])
  · intro d hi h hf; simp [hi, h, hf]
  · intro hi h hf; exact e _ (by simp [hi, h, hf])
  · intro d hf _ _; exact other (by rw [hf]; decide)
  · intro hf _; exact other (by rw [hf]; decide)
  · intro hh _; exact other (by rw [hh]; decide)
  · intro hh _; exact other (by rw [hh]; decide)
  · intro h _ _; exact other h

theorem parseQueryLargeTlv_st (c : Cfg) (g : Glob) (w : World) (st : St) (img : List Nat) :
    (parseQueryLargeTlv c g w st img).st =
      if fSeq img = 0 then st else (largeFetch g w (cmdSt st img) (byteAt img (X.sizeofDemux + X.offQltlvType))).st := by
  rw [parseQueryLargeTlv_eq]
  split
  · rfl
  · exact respond_st ..

end LLTD
