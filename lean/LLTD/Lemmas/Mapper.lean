/- The record's mapper fields refine the specification's mapper state over every frame. -/
import LLTD.Lemmas.Obs
import LLTD.Lemmas.Frame

namespace LLTD
open LLTD.Spec

/-- the specification's view of the record's mapper fields -/
def absS (st : St) : Mapper := if st.known then .active st.mapperReal st.mapperApparent else .none

/-- the record refines the specification state (which may have given up: `unknown`) -/
def Rel (st : St) (m : Mapper) : Prop := m = .unknown ∨ m = absS st

theorem rel_abs (st : St) (m : Mapper) (h : absS st = m) : Rel st m := Or.inr h.symm

theorem rel_unknown (st : St) : Rel st .unknown := Or.inl rfl

theorem onCommand_unknown (r e : Mac) (b : Bool) : Mapper.unknown.onCommand r e b = .unknown := rfl

theorem tos_le_one (img : List Nat) : (Spec.fTos img ≤ 1) ↔ (LLTD.fTos img = 0 ∨ LLTD.fTos img = 1) := by
  rw [spec_fTos]; omega

theorem active_of_rel {st : St} {m a : List Nat} (h : Rel st (.active m a)) :
    st.known = true ∧ st.mapperReal = m ∧ st.mapperApparent = a := by
  rcases h with h | h
  · cases h
  · cases hk : st.known <;> simp [absS, hk] at h
    exact ⟨rfl, h.1.symm, h.2.symm⟩

theorem absS_none {st : St} (h : absS st = .none) : st.known = false := by
  cases hk : st.known
  · rfl
  · rw [absS, hk] at h; cases h

theorem Rel.of_absS {st st' : St} {m : Mapper} (hr : Rel st m) (h : absS st' = absS st) : Rel st' m :=
  hr.imp id (fun e => e.trans h.symm)

theorem absS_setActive (st : St) (r e : Mac) :
    absS (setActiveMapper st r e) = if absS st = .none then .active r e else absS st := by
  unfold setActiveMapper absS
  by_cases hk : st.known = true <;> simp [hk]

theorem absS_cmdSt (st : St) (img : List Nat) :
    absS (cmdSt st img) = if absS st = .none then .active (fRealSrc img) (fEthSrc img) else absS st :=
  absS_setActive { st with seq := fSeq img } _ _

theorem absS_preStep (st : St) (img : List Nat) :
    absS (preStep st img) = if absS st = .none then .active (fRealSrc img) (fEthSrc img) else absS st := by
  rw [← absS_setActive]; unfold preStep; split <;> rfl

theorem absS_helloSt (st : St) (img : List Nat) (hk : st.known = true) : absS (helloSt st img) = absS st := by
  unfold helloSt
  rw [setActive_of_known _ _ hk]
  split <;> rfl

theorem rel_discover {st st' : St} {m : Mapper} {r e : Mac} (hr : Rel st m)
    (hst : absS st' = if absS st = .none then .active r e else absS st) :
    Rel st' (if m = .none then .active r e else m) := by
  rcases hr with h | h
  · rw [h]; exact rel_unknown _
  · rw [h]; exact rel_abs _ _ hst

/-- set_active_mapper refines `onCommand … false` -/
theorem rel_command {st st' : St} {m : Mapper} {r e : Mac} (hr : Rel st m)
    (hst : absS st' = if absS st = .none then .active r e else absS st) :
    Rel st' (m.onCommand r e false) := by
  rcases hr with h | h
  · rw [h]; exact rel_unknown _
  · rw [h, Rel, hst]
    unfold absS Mapper.onCommand
    by_cases hk : st.known = true
    · by_cases hq : (st.mapperReal == r) = true <;> simp [hk, hq]
    · simp [hk]

/-- a Query makes its sender the mapper whoever was: the specification follows unless a stranger asked -/
theorem rel_query (st : St) (img : List Nat) (m : Mapper) (hr : Rel st m) :
    Rel (querySt st img) (m.onCommand (fRealSrc img) (fEthSrc img) true) := by
  rcases hr with h | h
  · rw [h]; exact rel_unknown _
  · rw [h]
    unfold Rel absS Mapper.onCommand querySt
    by_cases hk : st.known = true
    · by_cases hq : (st.mapperReal == fRealSrc img) = true
      · simp [hk, eq_of_beq hq]
      · simp [hk, hq]
    · simp [hk]

/-- `hm`: when the MTU getter fails parseEmit returns before noting the command, the specification notes it all the same -/
theorem rel_step (own : List Nat) (dom : Nat) (rep : List ObsDesc) (c : Cfg) (g : Glob) (w : World) (st : St) (img : List Nat)
    (s : SpecSt) (hc : CfgOk c) (hm : c.failMtu = false) (hl : 36 ≤ img.length) (hr : Rel st s.mapper) :
    Rel (parseFrameSt c g w st img).st (specStep own dom g s img rep).mapper := by
  rw [parseFrameSt_req, specStep_req own dom g s img rep hl]
  cases reqOf img <;> simp only [reactTo, specReact]
  case discover =>
    by_cases hmm : mapperMatches st (fRealSrc img) = true
    · -- answered, after the pre-step has installed the sender
      rw [if_pos hmm]
      refine rel_discover (st' := (answerHello c g w (preStep st img) img).st) hr ?_
      rw [← absS_preStep]
      exact answerHello_cases (P := fun o => absS o.st = _) c g w _ img (fun _ => rfl)
        (fun _ _ => absS_helloSt _ img (preStep_known st img)) (fun _ _ => absS_helloSt _ img (preStep_known st img))
    · -- refused: then a mapper is active
      rw [if_neg hmm]
      exact rel_discover hr (if_neg fun h => hmm ((mapperMatches_iff st _).mpr (.inl (absS_none h)))).symm
  case emit =>
    refine rel_command hr ?_
    rw [← absS_cmdSt]
    refine parseEmit_cases (P := fun o => absS o.st = _) c w st img (fun hnomtu => ?_) (fun _ _ => rfl) (fun _ _ _ _ => rfl)
    have := hc.mtuLo
    simp only [hm, X.sizeofDemux_val, X.sizeofEmitHdr_val, Bool.false_eq_true, false_or] at hnomtu
    omega
  case probe =>
    have : Rel (parseProbe c w st img).st s.mapper :=
      parseProbe_cases (P := fun o => Rel o.st s.mapper) c w st img (fun _ => hr) (fun _ _ _ => hr) (fun _ _ _ _ => hr)
        (fun _ _ _ _ => hr.of_absS rfl)
    exact specReact_probe_cases (P := fun s' => Rel (parseProbe c w st img).st s'.mapper) own dom g s img rep (fun _ => this)
      (fun _ _ _ => this) (fun _ _ _ => this)
  case query =>
    exact parseQuery_cases (P := fun o => Rel o.st _) c w st img (fun _ => rel_query st img _ hr) (fun _ _ => rel_query st img _ hr)
      (fun _ _ _ _ _ _ => (rel_query st img _ hr).of_absS rfl)
  case large =>
    rw [parseQueryLargeTlv_st]
    by_cases hs : fSeq img = 0
    · rw [if_pos hs, if_pos hs]; exact hr
    · rw [if_neg hs, if_neg hs, largeFetch_st]
      exact rel_command hr (absS_cmdSt st img)
  case reset0 => exact rel_abs _ _ rfl
  case reset1 => exact rel_abs _ _ rfl
  case other => exact hr

end LLTD
