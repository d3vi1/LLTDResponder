/- Property lists: the independent parser inverts `encodeTlvs` on any list; the model's Hello list is such an encoding. -/
import LLTD.Model.Block
import LLTD.Spec.Block
import LLTD.Lemmas.XVals

namespace LLTD
open LLTD.Spec

def encodeTlvs (ps : List (Nat × List Nat)) : List Nat := ps.flatMap (fun p => tlv p.1 p.2) ++ [0]

theorem encodeTlvs_cons (p : Nat × List Nat) (ps : List (Nat × List Nat)) :
    encodeTlvs (p :: ps) = p.1 :: p.2.length :: (p.2 ++ encodeTlvs ps) := by
  simp [encodeTlvs, tlv, List.flatMap_cons]

/-- every property costs at least its two header bytes, so the encoded length is fuel enough for the parser -/
theorem length_lt_encodeTlvs (ps : List (Nat × List Nat)) : ps.length < (encodeTlvs ps).length := by
  induction ps with
  | nil => decide
  | cons p ps ih => rw [encodeTlvs_cons]; simp only [List.length_cons, List.length_append]; omega

theorem encodeTlvs_length (ps : List (Nat × List Nat)) :
    (encodeTlvs ps).length = (ps.map (fun p => 2 + p.2.length)).sum + 1 := by
  induction ps with
  | nil => rfl
  | cons p ps ih =>
    rw [encodeTlvs_cons]; simp only [List.length_cons, List.length_append, ih, List.map_cons, List.sum_cons]; omega

theorem parse_encode (ps : List (Nat × List Nat)) (h0 : ∀ p ∈ ps, p.1 ≠ 0) (fuel : Nat) (hf : ps.length < fuel) :
    parseTlvs fuel (encodeTlvs ps) = some ps := by
  induction ps generalizing fuel with
  | nil =>
    match fuel, hf with
    | k + 1, _ => simp [encodeTlvs, parseTlvs]
  | cons p ps ih =>
    match fuel, hf with
    | k + 1, hf =>
      have hp : p.1 ≠ 0 := h0 p (by simp)
      rw [encodeTlvs_cons]
      obtain ⟨t, v⟩ := p
      match t, hp with
      | t' + 1, _ =>
        simp only [parseTlvs]
        rw [if_neg (by simp), List.drop_left, List.take_left, ih (fun q hq => h0 q (by simp [hq])) k (by simp at hf; omega)]

/-- type 0 has no legal length: a list of legal properties has no end marker inside it -/
theorem types_ne_zero_of_legal (ps : List (Nat × List Nat)) (h : ps.all (fun p => legalLen p.1 p.2.length) = true) :
    ∀ p ∈ ps, p.1 ≠ 0 := by
  intro p hp h0
  have hl := List.all_eq_true.mp h p hp
  rw [h0] at hl
  exact Bool.false_ne_true hl

theorem tlvGet_cons (p : Nat × List Nat) (ps : List (Nat × List Nat)) (t : Nat) :
    tlvGet (p :: ps) t = if p.1 = t then some p.2 else tlvGet ps t := by
  unfold tlvGet
  rw [List.find?_cons]
  by_cases h : p.1 = t
  · simp [h]
  · rw [if_neg h, beq_false_of_ne h]

theorem tlvGet_nil (t : Nat) : tlvGet [] t = none := rfl

/-- the (type, value) lists answerHello emits: the wireless part, and (`helloProps`) the whole list -/
def wifiProps (c : Cfg) : List (Nat × List Nat) :=
  if c.wifi then
    [(X.tlvWifiMode, [c.mode])] ++ (if c.failBssid then [] else [(X.tlvBssid, c.bssid)]) ++
    [(X.tlvSsid, c.ssid.take 32), (X.tlvWifiMaxRate, be 2 (if c.failRate then 0 else c.rate)),
     (X.tlvWifiRssi, be 4 (i8ToU32 (if c.failRssi then 0 else c.rssi)))]
  else []

def helloProps (c : Cfg) (g : Glob) : List (Nat × List Nat) :=
  [(X.tlvHostId, c.ourMac), (X.tlvCharacteristics, be 4 ((c.flags * 65536) % u32)),
   (X.tlvIfType, be 4 (if c.failIfType then 0 else c.iftype)), (X.tlvIpv4, if c.failIpv4 then zeros 4 else c.ipv4),
   (X.tlvIpv6, if c.failIpv6 then zeros 16 else c.ipv6), (X.tlvPerfCounter, be 8 1000000),
   (X.tlvLinkSpeed, be 4 (if c.failSpeed then 0 else c.speed)), (X.tlvHostname, g.host.take 32)] ++
  wifiProps c ++
  [(X.tlvQos, be 4 (((X.qosL2Fwd ||| X.qosPrioTag ||| X.qosVlan) * 65536) % u32)), (X.tlvIconImage, []), (X.tlvFriendlyName, [])]

theorem wifiTlvs_eq (c : Cfg) : wifiTlvs c = (wifiProps c).flatMap (fun p => tlv p.1 p.2) := by
  unfold wifiTlvs wifiProps tlvBssid
  split
  · split <;> simp [tlvWifiMode, tlvSsid, tlvRate, tlvRssi]
  · rfl

theorem helloTlvs_eq (c : Cfg) (g : Glob) : helloTlvs c g = encodeTlvs (helloProps c g) := by
  simp [helloTlvs, helloProps, encodeTlvs, wifiTlvs_eq, tlvHostId, tlvCharacteristics, tlvIfType, tlvIpv4, tlvIpv6, tlvPerf,
    tlvSpeed, tlvHostname, tlvQos, tlvIcon, tlvFriendly]

end LLTD
