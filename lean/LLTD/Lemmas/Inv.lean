/- The invariant of the per-interface state record and its preservation by every handler; which handlers leave what the
   record retains (observations, cached icon) alone (`St.sameRet`). -/
import LLTD.Lemmas.Frame

namespace LLTD

structure ObsOk (o : Obs) : Prop where
  r : o.realSrc.length = 6
  s : o.src.length = 6
  d : o.dst.length = 6
  t : o.typ ≤ 1

def sameKey (a b : Obs) : Prop := a.src = b.src ∧ a.realSrc = b.realSrc

structure St.Inv (st : St) : Prop where
  count : st.count = st.sees.length
  cap   : st.sees.length ≤ 1024
  nodup : st.sees.Pairwise (fun a b => ¬ sameKey a b)
  obs   : ∀ o ∈ st.sees, ObsOk o
  real  : st.mapperReal.length = 6
  app   : st.mapperApparent.length = 6
  seq   : st.seq < 65536
  gt    : st.genTopo < 65536
  gq    : st.genQuick < 65536

theorem init_inv : St.Inv {} :=
  { count := rfl, cap := by decide, nodup := List.Pairwise.nil, obs := by intro o h; simp at h, real := rfl, app := rfl,
    seq := by decide, gt := by decide, gq := by decide }

/-- what the handlers need to know about the received buffer image -/
structure ImgOk (img : List Nat) : Prop where
  len   : 36 ≤ img.length
  bytes : isBytes img

theorem fRealSrc_len (img : List Nat) (h : ImgOk img) : (fRealSrc img).length = 6 := (fAddr_length img h.len).1
theorem fEthSrc_len (img : List Nat) (h : ImgOk img) : (fEthSrc img).length = 6 := (fAddr_length img h.len).2
theorem fEthDst_len (img : List Nat) (h : ImgOk img) : (fEthDst img).length = 6 := slice_length _ _ _ (by have := h.len; simp; omega)
theorem fRealDst_len (img : List Nat) (h : ImgOk img) : (fRealDst img).length = 6 := slice_length _ _ _ (by have := h.len; simp; omega)
theorem fSeq_lt (img : List Nat) (h : ImgOk img) : fSeq img < 65536 := unbe_slice_two_lt img _ h.bytes
theorem fDiscGen_lt (img : List Nat) (h : ImgOk img) : fDiscGen img < 65536 := unbe_slice_two_lt img _ h.bytes

theorem setActive_inv (st : St) (img : List Nat) (hi : St.Inv st) (him : ImgOk img) :
    St.Inv (setActiveMapper st (fRealSrc img) (fEthSrc img)) := by
  unfold setActiveMapper
  split
  · exact hi
  · exact { hi with real := fRealSrc_len img him, app := fEthSrc_len img him }

theorem seq_inv (st : St) (v : Nat) (hi : St.Inv st) (hv : v < 65536) : St.Inv { st with seq := v } := { hi with seq := hv }
theorem gt_inv (st : St) (v : Nat) (hi : St.Inv st) (hv : v < 65536) : St.Inv { st with genTopo := v } := { hi with gt := hv }
theorem gq_inv (st : St) (v : Nat) (hi : St.Inv st) (hv : v < 65536) : St.Inv { st with genQuick := v } := { hi with gq := hv }

theorem preStep_inv (st : St) (img : List Nat) (hi : St.Inv st) (him : ImgOk img) : St.Inv (preStep st img) := by
  unfold preStep
  have h := setActive_inv st img hi him
  split
  · exact gq_inv _ _ h (fDiscGen_lt img him)
  · exact gt_inv _ _ h (fDiscGen_lt img him)

theorem cmdSt_inv (st : St) (img : List Nat) (hi : St.Inv st) (him : ImgOk img) : St.Inv (cmdSt st img) :=
  setActive_inv _ img (seq_inv st _ hi (fSeq_lt img him)) him

theorem helloGen_lt (st : St) (img : List Nat) (hi : St.Inv st) (him : ImgOk img) : helloGen st img < 65536 := by
  unfold helloGen
  have h := setActive_inv st img hi him
  simp only []
  split
  · split
    · exact fDiscGen_lt img him
    · exact h.gq
  · split
    · exact fDiscGen_lt img him
    · exact h.gt

theorem helloSt_inv (st : St) (img : List Nat) (hi : St.Inv st) (him : ImgOk img) : St.Inv (helloSt st img) := by
  have h := seq_inv _ (fSeq img) (setActive_inv st img hi him) (fSeq_lt img him)
  unfold helloSt
  split
  · exact gq_inv _ _ h (helloGen_lt st img hi him)
  · exact gt_inv _ _ h (helloGen_lt st img hi him)

theorem answerHello_inv (c : Cfg) (g : Glob) (w : World) (st : St) (img : List Nat) (hi : St.Inv st) (him : ImgOk img) :
    St.Inv (answerHello c g w st img).st :=
  answerHello_cases (P := fun o => St.Inv o.st) c g w st img (fun _ => hi) (fun _ _ => helloSt_inv st img hi him)
    (fun _ _ => helloSt_inv st img hi him)

theorem parseEmit_inv (c : Cfg) (w : World) (st : St) (img : List Nat) (hi : St.Inv st) (him : ImgOk img) :
    St.Inv (parseEmit c w st img).st :=
  parseEmit_cases (P := fun o => St.Inv o.st) c w st img (fun _ => hi) (fun _ _ => cmdSt_inv st img hi him)
    (fun _ _ _ _ => cmdSt_inv st img hi him)

theorem parseProbe_inv (c : Cfg) (w : World) (st : St) (img : List Nat) (hi : St.Inv st) (him : ImgOk img) :
    St.Inv (parseProbe c w st img).st := by
  refine parseProbe_cases (P := fun o => St.Inv o.st) c w st img (fun _ => hi) (fun _ _ _ => hi) (fun _ _ _ _ => hi)
    (fun _ hfull _ hany => ?_)
  have hlt : st.sees.length < 1024 := by
    rw [seesFull_eq, decide_eq_false_iff_not] at hfull
    have := hi.count; omega
  refine { hi with count := ?_, cap := ?_, nodup := ?_, obs := ?_ }
  · have := hi.count
    have hu : st.count + 1 < u32 := by unfold u32; omega
    simp only [List.length_cons, Nat.mod_eq_of_lt hu]; omega
  · simp only [List.length_cons]; omega
  · refine List.Pairwise.cons (fun p hp hk => ?_) hi.nodup
    rw [List.any_eq_false] at hany
    exact hany p hp (by simpa [C07.obsOfFrame] using And.intro hk.1 hk.2)
  · intro o ho
    rcases List.mem_cons.mp ho with rfl | ho
    · exact ⟨fRealSrc_len img him, fEthSrc_len img him, fEthDst_len img him, by unfold C07.obsOfFrame; split <;> simp⟩
    · exact hi.obs o ho

theorem queryLoop_count (mtu : Nat) (sees : List Obs) (rem off : Nat) : (queryLoop mtu sees rem off).2 ≤ sees.length ∧ (queryLoop mtu sees rem off).2 ≤ rem := by
  induction sees generalizing rem off with
  | nil => simp [queryLoop]
  | cons o os ih =>
    cases rem with
    | zero => simp [queryLoop]
    | succ r =>
      simp only [queryLoop]
      split
      · simp
      · have := ih r (off + 20)
        simp only [List.length_cons]
        omega

theorem querySt_inv (st : St) (img : List Nat) (hi : St.Inv st) (him : ImgOk img) : St.Inv (querySt st img) :=
  { hi with seq := fSeq_lt img him, real := fRealSrc_len img him, app := fEthSrc_len img him }

theorem parseQuery_inv (c : Cfg) (w : World) (st : St) (img : List Nat) (hi : St.Inv st) (him : ImgOk img) :
    St.Inv (parseQuery c w st img).st := by
  have hq := querySt_inv st img hi him
  refine parseQuery_cases (P := fun o => St.Inv o.st) c w st img (fun _ => hq) (fun _ _ => hq) (fun _ _ num r _ hr => ?_)
  have hkl : r.2 ≤ st.sees.length := by rw [hr]; exact (queryLoop_count _ _ _ _).1
  have hc := hi.count
  refine { hq with count := ?_, cap := ?_, nodup := hi.nodup.drop, obs := fun o ho => hi.obs o (List.mem_of_mem_drop ho) }
  · simp only [List.isEmpty_iff_length_eq_zero, List.length_drop]
    split <;> omega
  · have := hi.cap; simp only [List.length_drop]; omega

theorem parseQueryLargeTlv_inv (c : Cfg) (g : Glob) (w : World) (st : St) (img : List Nat) (hi : St.Inv st) (him : ImgOk img) :
    St.Inv (parseQueryLargeTlv c g w st img).st := by
  rw [parseQueryLargeTlv_st]
  split
  · exact hi
  · rw [largeFetch_st]; exact { cmdSt_inv st img hi him with }

theorem resetSt_inv (st : St) (hi : St.Inv st) : St.Inv (resetSt st) :=
  { count := rfl, cap := by simp [resetSt], nodup := List.Pairwise.nil, obs := by intro o h; simp [resetSt] at h, real := hi.real,
    app := hi.app, seq := by simp [resetSt], gt := by simp [resetSt], gq := by simp [resetSt] }

theorem parseFrameSt_inv (c : Cfg) (g : Glob) (w : World) (st : St) (img : List Nat) (hi : St.Inv st) (him : ImgOk img) :
    St.Inv (parseFrameSt c g w st img).st := by
  rw [parseFrameSt_req]
  cases reqOf img <;> simp only [reactTo]
  case discover =>
    split
    · exact answerHello_inv c g w _ img (preStep_inv st img hi him) him
    · exact hi
  case emit => exact parseEmit_inv c w st img hi him
  case probe => exact parseProbe_inv c w st img hi him
  case query => exact parseQuery_inv c w st img hi him
  case large => exact parseQueryLargeTlv_inv c g w st img hi him
  case reset0 => exact resetSt_inv st hi
  case reset1 => exact { hi with gq := by simp }
  case other => exact hi

/-- the same observations and cached icon: all that the ledger (`Accounted`) and the pending / icon components of the
    refinement (`RestAgree`) read of a record -/
def St.sameRet (a b : St) : Prop := b.sees = a.sees ∧ b.icon = a.icon

theorem St.sameRet.trans {a b c : St} (h1 : a.sameRet b) (h2 : b.sameRet c) : a.sameRet c :=
  ⟨h2.1.trans h1.1, h2.2.trans h1.2⟩

theorem setActive_ret (st : St) (r e : Mac) : st.sameRet (setActiveMapper st r e) := by
  unfold setActiveMapper; split <;> exact ⟨rfl, rfl⟩

theorem cmdSt_ret (st : St) (img : List Nat) : st.sameRet (cmdSt st img) := setActive_ret { st with seq := fSeq img } _ _

theorem helloSt_ret (st : St) (img : List Nat) : st.sameRet (helloSt st img) := by
  have h := setActive_ret st (fRealSrc img) (fEthSrc img)
  unfold helloSt
  split <;> exact h

theorem preStep_ret (st : St) (img : List Nat) : st.sameRet (preStep st img) := by
  have h := setActive_ret st (fRealSrc img) (fEthSrc img)
  unfold preStep
  split <;> exact h

theorem parseEmit_ret (c : Cfg) (w : World) (st : St) (img : List Nat) : st.sameRet (parseEmit c w st img).st :=
  parseEmit_cases (P := fun o => st.sameRet o.st) c w st img (fun _ => ⟨rfl, rfl⟩) (fun _ _ => cmdSt_ret st img)
    (fun _ _ _ _ => cmdSt_ret st img)

theorem answerHello_ret (c : Cfg) (g : Glob) (w : World) (st : St) (img : List Nat) : st.sameRet (answerHello c g w st img).st :=
  answerHello_cases (P := fun o => st.sameRet o.st) c g w st img (fun _ => ⟨rfl, rfl⟩) (fun _ _ => helloSt_ret st img)
    (fun _ _ => helloSt_ret st img)

end LLTD
