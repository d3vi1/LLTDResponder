/-
  Which frames a handler can transmit at all (whatever the allocator and the transmit path do), and what the
  independent decoders make of each shape: a Hello is only ever sent in answer to a Discover, a QueryResp in answer to a
  Query, a QueryLargeTlvResp in answer to a QueryLargeTlv.
-/
import LLTD.Lemmas.Decode
import LLTD.Lemmas.Obs

namespace LLTD
open LLTD.Spec

def sentFrames (fx : List Fx) : List (List Nat) := fx.filterMap (fun x => match x with | .send _ _ f => some f | _ => none)

namespace C06
def sendCount (fx : List Fx) : Nat := (fx.filter (fun x => match x with | .send .. => true | _ => false)).length
end C06

theorem sends_obsOf (c : Cfg) (g : Glob) (img : List Nat) (fx : List Fx) : sends (obsOf c g img fx).fx = sentFrames fx := by
  show sends (fx.map toObs) = sentFrames fx
  induction fx with
  | nil => rfl
  | cons x xs ih =>
    cases x with
    | sleep _ => exact ih
    | send _ _ f => exact congrArg (f :: ·) ih

theorem sendCount_eq (fx : List Fx) : C06.sendCount fx = (sentFrames fx).length := by
  induction fx with
  | nil => rfl
  | cons x xs ih =>
    cases x with
    | sleep _ => exact ih
    | send _ _ _ => exact congrArg (· + 1) ih

theorem sentFrames_append (a b : List Fx) : sentFrames (a ++ b) = sentFrames a ++ sentFrames b := by
  simp [sentFrames, List.filterMap_append]

@[simp] theorem sentFrames_sleep (p : Nat) : sentFrames [Fx.sleep p] = [] := rfl
@[simp] theorem sentFrames_send (ok : Bool) (i : Nat) (f : List Nat) : sentFrames [Fx.send ok i f] = [f] := rfl
@[simp] theorem sentFrames_nil : sentFrames [] = [] := rfl

/-- the pause before the Hello of the topology service is no frame -/
theorem sentFrames_pause (b : Prop) [Decidable b] (fx : List Fx) :
    sentFrames ((if b then [Fx.sleep 10] else []) ++ fx) = sentFrames fx := by split <;> rfl

/-- the frames of a descriptor loop: Probe / Train frames with 6-byte addresses, and the ACK -/
def Emitted (c : Cfg) (st : St) (f : List Nat) : Prop :=
  (∃ src dst ty, src.length = 6 ∧ dst.length = 6 ∧ f = C06.probeFrame c src dst ty) ∨ f = C06.ackFrame c st

theorem parseEmit_sent (c : Cfg) (w : World) (st : St) (img : List Nat) :
    ∀ f ∈ sentFrames (parseEmit c w st img).fx, Emitted c (cmdSt st img) f := by
  have nil : ∀ f ∈ sentFrames ([] : List Fx), Emitted c (cmdSt st img) f := fun f hf => by simp at hf
  refine parseEmit_cases (P := fun o => ∀ f ∈ sentFrames o.fx, Emitted c (cmdSt st img) f) c w st img (fun _ => nil) (fun _ _ => nil)
    (fun _ _ n _ => emitLoop_ind (Q := fun _ fx => ∀ f ∈ sentFrames fx, Emitted c (cmdSt st img) f) c _ img n ?_ n 0 w [] nil)
  intro w fx off pause ty ack hrd h
  have hrd' : off + X.sizeofEmitee ≤ img.length := of_decide_eq_true hrd
  have hp : Emitted c (cmdSt st img) (C06.probeFrame c (slice img (off + X.offEmiteeSrc) 6) (slice img (off + X.offEmiteeDst) 6) ty) :=
    .inl ⟨_, _, _, slice_length _ _ _ (by simp only [X.sizeofEmitee_val, X.offEmiteeSrc_val] at hrd' ⊢; omega),
      slice_length _ _ _ (by simp only [X.sizeofEmitee_val, X.offEmiteeDst_val] at hrd' ⊢; omega), rfl⟩
  refine sendProbeMsg_cases (P := fun r => ∀ f ∈ sentFrames r.2, Emitted c (cmdSt st img) f) c _ w fx _ _ pause ty ack (fun _ => h)
    (fun _ _ => ?_) (fun _ _ _ => ?_) <;> rw [sentFrames_append, List.forall_mem_append]
  · exact ⟨h, List.forall_mem_singleton.mpr hp⟩
  · exact ⟨h, List.forall_mem_cons.mpr ⟨hp, List.forall_mem_singleton.mpr (.inr rfl)⟩⟩

/-- Probe, Train and ACK are bare demultiplex headers -/
theorem Emitted.length {c : Cfg} {st : St} {f : List Nat} (h : Emitted c st f) (hc : CfgOk c) (hi : St.Inv st) : f.length = 32 := by
  have hm := ourMac_length c hc
  rcases h with ⟨src, dst, ty, h1, h2, rfl⟩ | rfl
  · exact lltdHeader_length h2 h1 h2 hm
  · exact lltdHeader_length hi.app hm hi.real hm

theorem answerHello_sent (c : Cfg) (g : Glob) (w : World) (st : St) (img : List Nat) :
    sentFrames (answerHello c g w st img).fx = [] ∨
      sentFrames (answerHello c g w st img).fx = [helloFrame c g (helloGen st img) (fTos img) (fRealSrc img) (fEthSrc img)] :=
  answerHello_cases (P := fun o => sentFrames o.fx = [] ∨
      sentFrames o.fx = [helloFrame c g (helloGen st img) (fTos img) (fRealSrc img) (fEthSrc img)]) c g w st img
    (fun _ => .inl rfl) (fun _ _ => .inl rfl) (fun _ _ => .inr (sentFrames_send ..))

theorem discover_sent (c : Cfg) (g : Glob) (w : World) (st : St) (img : List Nat) (hc : CfgOk c) (hl : 36 ≤ img.length)
    (hd : reqOf img = .discover) :
    sentFrames (parseFrameSt c g w st img).fx =
      if mapperMatches st (fRealSrc img) = true ∧ (w.malloc c.mtuEff).2 = true then
        [helloFrame c g (fDiscGen img) (fTos img) (fRealSrc img) (fEthSrc img)]
      else [] := by
  rw [parseFrameSt_req, hd, reactTo]
  by_cases hmm : mapperMatches st (fRealSrc img) = true
  · rw [if_pos hmm]
    show sentFrames (_ ++ _) = _
    rw [sentFrames_pause]
    cases hm : (w.malloc c.mtuEff).2
    · rw [answerHello_fail c g w _ img hm, if_neg (fun h => Bool.noConfusion h.2)]; rfl
    · rw [answerHello_ok c g w _ img hc hl hm, helloGen_preStep, if_pos ⟨hmm, rfl⟩]; rfl
  · rw [if_neg hmm, if_neg (fun h => hmm h.1)]; rfl

theorem discover_silent (c : Cfg) (g : Glob) (w : World) (st : St) (img : List Nat) (hc : CfgOk c) (hd : isDiscover img = true)
    (h : ¬ (mapperMatches st (fRealSrc img) = true ∧ (w.malloc c.mtuEff).2 = true)) :
    sends (obsOf c g img (parseFrameSt c g w st img).fx).fx = [] := by
  obtain ⟨hl, hd⟩ := (isDiscover_iff img).mp hd
  rw [sends_obsOf, discover_sent c g w st img hc hl hd, if_neg h]

/-- the three kinds of frame a clause about the answer to a Discover tells apart: a Discover that is answered (accepted, and the
    buffer granted), a Discover that causes no transmit, any other frame -/
theorem discover_cases {p : Prop} (c : Cfg) (g : Glob) (w : World) (st : St) (img : List Nat) (hc : CfgOk c)
    (answered : isDiscover img = true → mapperMatches st (fRealSrc img) = true → (w.malloc c.mtuEff).2 = true → p)
    (silent : isDiscover img = true → sends (obsOf c g img (parseFrameSt c g w st img).fx).fx = [] → p)
    (other : ¬ isDiscover img = true → p) : p := by
  by_cases hd : isDiscover img = true
  · by_cases h : mapperMatches st (fRealSrc img) = true ∧ (w.malloc c.mtuEff).2 = true
    · exact answered hd h.1 h.2
    · exact silent hd (discover_silent c g w st img hc hd h)
  · exact other hd

/-- the QueryResp parseQuery builds when it gets its buffer -/
def queryResp (c : Cfg) (st : St) (img : List Nat) : List Nat :=
  queryFrame c img (fSeq img) (min st.sees.length (queryMaxDescs c.mtuEff))
    (decide (st.sees.length > min st.sees.length (queryMaxDescs c.mtuEff)))
    ((st.sees.take (min st.sees.length (queryMaxDescs c.mtuEff))).flatMap obsWire)

theorem parseQuery_sent (c : Cfg) (w : World) (st : St) (img : List Nat) (hc : CfgOk c) (hi : st.count = st.sees.length) :
    sentFrames (parseQuery c w st img).fx = [] ∨ sentFrames (parseQuery c w st img).fx = [queryResp c st img] := by
  cases hm : (w.malloc c.mtuEff).2
  · rw [parseQuery_fail c w st img hm]; exact .inl rfl
  · rw [parseQuery_ok c w st img hc hi hm _ rfl]; exact .inr rfl

/-- the QueryLargeTlvResp for data `d` (`none` = NULL) requested at the offset the frame names -/
def largeResp (c : Cfg) (img : List Nat) (d : Option (List Nat)) : List Nat :=
  largeFrame c (respDest img) (fSeq img)
    (respFields (largePayload c) d (unbe (slice img (X.sizeofDemux + X.offQltlvOffset) 2))).2
    (slice (d.getD []) (unbe (slice img (X.sizeofDemux + X.offQltlvOffset) 2))
      (respFields (largePayload c) d (unbe (slice img (X.sizeofDemux + X.offQltlvOffset) 2))).1)

theorem parseQueryLargeTlv_sent (c : Cfg) (g : Glob) (w : World) (st : St) (img : List Nat) :
    sentFrames (parseQueryLargeTlv c g w st img).fx = [] ∨
      ∃ d, sentFrames (parseQueryLargeTlv c g w st img).fx = [largeResp c img d] := by
  rw [parseQueryLargeTlv_eq]
  split
  · exact .inl rfl
  · have hq : (largeFetch g w (cmdSt st img) (byteAt img (X.sizeofDemux + X.offQltlvType))).st.seq = fSeq img := by
      rw [largeFetch_st]; exact setActive_seq ..
    refine respond_cases (P := fun o => sentFrames o.fx = [] ∨ ∃ d, sentFrames o.fx = [largeResp c img d])
      c img _ _ (fun _ => .inl rfl)
      (fun _ => .inr ⟨(largeFetch g w (cmdSt st img) (byteAt img (X.sizeofDemux + X.offQltlvType))).data, ?_⟩)
    rw [largeResp, ← hq]; rfl

/-- What `parseFrameSt` can transmit, by request: nothing, whatever the request (`none` has no premise: THAT something is sent is
    not said here); the one Hello, to a Discover the mapper test accepts; to an Emit, frames each of the shape `Emitted` (Probe /
    Train / ACK: neither how many nor in which order); the one QueryResp to a Query; one QueryLargeTlvResp, of some data `d`, to
    a QueryLargeTlv. -/
inductive Sent (c : Cfg) (g : Glob) (st : St) (img : List Nat) : List (List Nat) → Prop
  | none : Sent c g st img []
  | hello : reqOf img = .discover → mapperMatches st (fRealSrc img) = true →
      Sent c g st img [helloFrame c g (fDiscGen img) (fTos img) (fRealSrc img) (fEthSrc img)]
  | emit (fs : List (List Nat)) : reqOf img = .emit → (∀ f ∈ fs, Emitted c (cmdSt st img) f) → Sent c g st img fs
  | query : reqOf img = .query → Sent c g st img [queryResp c st img]
  | large (d : Option (List Nat)) : reqOf img = .large → Sent c g st img [largeResp c img d]

theorem parseFrameSt_sent (c : Cfg) (g : Glob) (w : World) (st : St) (img : List Nat) (hc : CfgOk c) (hi : st.count = st.sees.length) :
    Sent c g st img (sentFrames (parseFrameSt c g w st img).fx) := by
  rw [parseFrameSt_req]
  cases hr : reqOf img <;> simp only [reactTo]
  case discover =>
    split
    · next hm =>
      show Sent c g st img (sentFrames (_ ++ _))
      rw [sentFrames_pause]
      rcases answerHello_sent c g w (preStep st img) img with h | h <;> rw [h]
      · exact .none
      · rw [helloGen_preStep]; exact .hello hr hm
    · exact .none
  case emit => exact .emit _ hr (parseEmit_sent c w st img)
  case probe =>
    rw [parseProbe_fx]
    exact .none
  case query =>
    rcases parseQuery_sent c w st img hc hi with h | h <;> rw [h]
    · exact .none
    · exact .query hr
  case large =>
    rcases parseQueryLargeTlv_sent c g w st img with h | ⟨d, h⟩ <;> rw [h]
    · exact .none
    · exact .large d hr
  all_goals exact .none

/-- a transmitted frame is a bare 32-byte header (Probe / Train / ACK) or decodes with the opcode of the answer to the request
    received: Hello (1) to a Discover, QueryResp (7) to a Query, QueryLargeTlvResp (12) to a QueryLargeTlv -/
theorem sent_opcode (c : Cfg) (g : Glob) (w : World) (st : St) (img : List Nat) (hc : CfgOk c) (hi : St.Inv st) (him : ImgOk img) :
    ∀ f ∈ sentFrames (parseFrameSt c g w st img).fx, f.length = 32 ∨ ∃ b, decodeBase f = some b ∧
      (b.opcode = 1 ∧ reqOf img = .discover ∨ b.opcode = 7 ∧ reqOf img = .query ∨ b.opcode = 12 ∧ reqOf img = .large) := by
  have hs := parseFrameSt_sent c g w st img hc hi.count
  generalize sentFrames (parseFrameSt c g w st img).fx = fs at hs
  intro f hf
  cases hs with
  | none => simp at hf
  | hello hr => rw [List.mem_singleton.mp hf]; exact .inr ⟨_, decodeBase_helloFrame c g _ _ _ _ hc, .inl ⟨rfl, hr⟩⟩
  | emit _ _ h => exact .inl ((h f hf).length hc (cmdSt_inv st img hi him))
  | query hr =>
    rw [List.mem_singleton.mp hf]; exact .inr ⟨_, decodeBase_queryFrame c img _ _ _ _ hc him, .inr (.inl ⟨rfl, hr⟩)⟩
  | large d hr =>
    rw [List.mem_singleton.mp hf]
    exact .inr ⟨_, decodeBase_largeFrame c _ _ _ _ hc (respDest_length img him), .inr (.inr ⟨rfl, hr⟩)⟩

theorem no_hello (c : Cfg) (g : Glob) (w : World) (st : St) (img : List Nat) (hc : CfgOk c) (hi : St.Inv st) (him : ImgOk img)
    (hq : ¬ isDiscover img = true) : (sentFrames (parseFrameSt c g w st img).fx).filterMap decodeHello = [] := by
  refine List.filterMap_eq_nil_iff.mpr fun f hf => Option.eq_none_iff_forall_ne_some.mpr fun x hx => ?_
  obtain ⟨hx, h1, hl⟩ := decodeHello_some f x hx
  rcases sent_opcode c g w st img hc hi him f hf with h | ⟨b, hb, h⟩
  · omega
  · obtain rfl := Option.some.inj (hb.symm.trans hx)
    rcases h with ⟨-, hr⟩ | ⟨h7, -⟩ | ⟨h12, -⟩
    · exact hq ((isDiscover_iff img).mpr ⟨him.len, hr⟩)
    · omega
    · omega

theorem no_queryResp (c : Cfg) (g : Glob) (w : World) (st : St) (img : List Nat) (hc : CfgOk c) (hi : St.Inv st) (him : ImgOk img)
    (hq : ¬ isQuery img = true) : (sentFrames (parseFrameSt c g w st img).fx).filterMap decodeQueryResp = [] := by
  refine List.filterMap_eq_nil_iff.mpr fun f hf => Option.eq_none_iff_forall_ne_some.mpr fun x hx => ?_
  obtain ⟨hx, h7, hl⟩ := decodeQueryResp_some f x hx
  rcases sent_opcode c g w st img hc hi him f hf with h | ⟨b, hb, h⟩
  · omega
  · obtain rfl := Option.some.inj (hb.symm.trans hx)
    rcases h with ⟨h1, -⟩ | ⟨-, hr⟩ | ⟨h12, -⟩
    · omega
    · exact hq ((isQuery_iff img him.len).mpr hr)
    · omega

theorem no_largeResp (c : Cfg) (g : Glob) (w : World) (st : St) (img : List Nat) (hc : CfgOk c) (hi : St.Inv st) (him : ImgOk img)
    (hq : ¬ isLarge img = true) : (sentFrames (parseFrameSt c g w st img).fx).filterMap decodeLargeResp = [] := by
  refine List.filterMap_eq_nil_iff.mpr fun f hf => Option.eq_none_iff_forall_ne_some.mpr fun x hx => ?_
  obtain ⟨hx, h12, hl⟩ := decodeLargeResp_some f x hx
  rcases sent_opcode c g w st img hc hi him f hf with h | ⟨b, hb, h⟩
  · omega
  · obtain rfl := Option.some.inj (hb.symm.trans hx)
    rcases h with ⟨h1, -⟩ | ⟨h7, -⟩ | ⟨-, hr⟩
    · omega
    · omega
    · exact hq ((isLarge_iff img him.len).mpr hr)

end LLTD
