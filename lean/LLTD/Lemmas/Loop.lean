/-
  What the equality proofs of both translations share.  Invariant principles for `CSem.loopRange`, their `for` loop: an invariant
  indexed by the loop variable, the loop that leaves at its first hit (over a list, at its `findIdx`: `firstBelow_full`), the loop that
  walks a transition table.  The first cells of a list of known length (both C texts compare and copy addresses byte by byte), and
  `==` on promoted unsigned values.
-/
import LLTD.Model.CSem

namespace LLTD.TEq
open LLTD

theorem loopRange_inv {σ : Type} (P : Nat → σ → Prop) (b : Nat) (f : Nat → σ → σ) :
    ∀ (k a : Nat) (s : σ), a + k = b → P a s → (∀ i s, a ≤ i → i < b → P i s → P (i + 1) (f i s)) →
      P b (CSem.loopRange a b f s) := by
  intro k
  induction k with
  | zero => intro a s hab h0 _; have : a = b := by omega
            subst this; rw [CSem.loopRange_empty _ _ _ _ (Nat.le_refl _)]; exact h0
  | succ k ih =>
    intro a s hab h0 hstep
    rw [CSem.loopRange_succ _ _ _ _ (by omega)]
    exact ih (a + 1) (f a s) (by omega) (hstep a s (Nat.le_refl _) (by omega) h0)
      (fun i s hi hb hp => hstep i s (by omega) hb hp)

/-- the first index below `n` at which `q` holds: what a `for` loop that leaves at its first hit computes -/
def firstBelow (q : Nat → Bool) : Nat → Option Nat
  | 0 => none
  | n + 1 => match firstBelow q n with
    | some j => some j
    | none => if q n then some n else none

/-- the invariant of a loop that leaves at its first hit is indexed by the hit so far: `G none` while nothing was hit, `G (some j)`
    stable once `done` / `brk` is set (the body is skipped) -/
theorem loopRange_first {σ : Type} (q : Nat → Bool) (G : Option Nat → σ → Prop) (f : Nat → σ → σ) (n : Nat) (s : σ)
    (h0 : G none s) (hskip : ∀ i j t, G (some j) t → G (some j) (f i t))
    (hstep : ∀ i t, i < n → G none t → G (if q i then some i else none) (f i t)) :
    G (firstBelow q n) (CSem.loopRange 0 n f s) :=
  loopRange_inv (fun i t => G (firstBelow q i) t) n f n 0 s (by omega) h0 (fun i t _ hi h => by
    rw [firstBelow]
    cases hfb : firstBelow q i with
    | some j => rw [hfb] at h; exact hskip i j t h
    | none => rw [hfb] at h; exact hstep i t hi h)

theorem firstBelow_findIdx {α : Type} (p : α → Bool) (l : List α) (d : α) :
    ∀ n, n ≤ l.length → firstBelow (fun k => p (l.getD k d)) n =
      (if (l.take n).findIdx p < n then some ((l.take n).findIdx p) else none) := by
  intro n
  induction n with
  | zero => intro _; simp [firstBelow]
  | succ n ih =>
    intro hn
    have hlt : n < l.length := by omega
    have hlen : (l.take n).length = n := by simp; omega
    rw [firstBelow, ih (by omega), List.take_add_one, List.getElem?_eq_getElem hlt]
    simp only [Option.toList_some, List.findIdx_append, hlen]
    have hg : l.getD n d = l[n] := by simp [List.getD, List.getElem?_eq_getElem hlt]
    by_cases h1 : List.findIdx p (List.take n l) < n
    · simp only [h1, ↓reduceIte]
      have : List.findIdx p (List.take n l) < n + 1 := by omega
      simp only [this, ↓reduceIte]
    · simp only [h1, hg, ↓reduceIte]
      by_cases h2 : p l[n] = true
      · simp [h2, List.findIdx_cons]
      · simp [h2, List.findIdx_cons]; omega

theorem firstBelow_full {α : Type} (p : α → Bool) (l : List α) (d : α) :
    firstBelow (fun k => p (l.getD k d)) l.length = (if l.findIdx p < l.length then some (l.findIdx p) else none) := by
  have := firstBelow_findIdx p l d l.length (Nat.le_refl _)
  simpa using this

/-- the new state the table walk ends with: the `for` of `switch_state_*` has no `break`, the last matching row wins -/
def walk (cur : Nat) (inp : Int) (acc : Nat) (rows : List (Nat × Nat × Int)) : Nat :=
  rows.foldl (fun acc r => if cur = r.1 ∧ r.2.2 = inp then r.2.1 else acc) acc

theorem walk_snoc (cur : Nat) (inp : Int) (acc : Nat) (rows : List (Nat × Nat × Int)) (r : Nat × Nat × Int) :
    walk cur inp acc (rows ++ [r]) = (if cur = r.1 ∧ r.2.2 = inp then r.2.1 else walk cur inp acc rows) := by
  simp [walk, List.foldl_append]

theorem take_succ_map {α β : Type} (row : α → β) (d : α) (l : List α) (i : Nat) (h : i < l.length) :
    (l.take (i + 1)).map row = (l.take i).map row ++ [row (l.getD i d)] := by
  have h' : i < (l.map row).length := by simpa using h
  rw [List.map_take, List.map_take, List.take_add_one, List.getElem?_eq_getElem h']
  simp [List.getD, List.getElem?_eq_getElem h]

/-- for any state record and any table read through `row`: `I` is what the body keeps, `ns` the field it moves by one row -/
theorem loopRange_walk {σ α : Type} (row : α → Nat × Nat × Int) (d : α) (I : σ → Prop) (ns : σ → Nat) (tbl : List α) (cur : Nat)
    (inp : Int) (f : Nat → σ → σ) (n : Nat) (hn : n ≤ tbl.length) (s : σ) (h0 : I s)
    (hstep : ∀ i t, i < n → I t → I (f i t) ∧ ns (f i t) =
      (if cur = (row (tbl.getD i d)).1 ∧ (row (tbl.getD i d)).2.2 = inp then (row (tbl.getD i d)).2.1 else ns t)) :
    I (CSem.loopRange 0 n f s) ∧ ns (CSem.loopRange 0 n f s) = walk cur inp (ns s) ((tbl.take n).map row) :=
  loopRange_inv (fun i t => I t ∧ ns t = walk cur inp (ns s) ((tbl.take i).map row)) n f n 0 s (by omega)
    ⟨h0, by simp [walk]⟩
    (fun i t _ hi ⟨hI, hw⟩ => by
      obtain ⟨h1, h2⟩ := hstep i t hi hI
      rw [take_succ_map row d _ _ (by omega), walk_snoc, ← hw]
      exact ⟨h1, h2⟩)

theorem cell {α : Type} (l : List α) (n : Nat) (h : n + 1 ≤ l.length) : ∃ x r, l = x :: r ∧ n ≤ r.length := by
  cases l with
  | nil => simp at h
  | cons x r => exact ⟨x, r, rfl, by simpa using h⟩

/-- the first six cells of a list, one `cell` at a time (a six-deep `match` on two lists is dear to compile) -/
theorem six_cells (l : List Nat) (h : 6 ≤ l.length) : ∃ x0 x1 x2 x3 x4 x5 r, l = x0 :: x1 :: x2 :: x3 :: x4 :: x5 :: r := by
  obtain ⟨x0, l, rfl, h5⟩ := cell l 5 h
  obtain ⟨x1, l, rfl, h4⟩ := cell l 4 h5
  obtain ⟨x2, l, rfl, h3⟩ := cell l 3 h4
  obtain ⟨x3, l, rfl, h2⟩ := cell l 2 h3
  obtain ⟨x4, l, rfl, h1⟩ := cell l 1 h2
  obtain ⟨x5, l, rfl, _⟩ := cell l 0 h1
  exact ⟨x0, x1, x2, x3, x4, x5, l, rfl⟩

theorem six_exact (l : List Nat) (h : l.length = 6) : ∃ x0 x1 x2 x3 x4 x5, l = [x0, x1, x2, x3, x4, x5] := by
  obtain ⟨x0, x1, x2, x3, x4, x5, r, rfl⟩ := six_cells l (Nat.le_of_eq h.symm)
  cases r with
  | nil => exact ⟨x0, x1, x2, x3, x4, x5, rfl⟩
  | cons y r => simp at h

end LLTD.TEq

/-- `==` on the `int` promotions of two unsigned values -/
theorem LLTD.TWEq.int_beq (x y : Nat) : (((x : Int) == (y : Int)) : Bool) = decide (x = y) := by
  rw [Bool.eq_iff_iff, beq_iff_eq, decide_eq_true_eq]; exact Int.ofNat_inj
