/-
  The per-interface record refines the WHOLE specification state (active mapper, observations not yet reported,
  icon cached since the last Reset) over every frame, with what the mapper reads in the model's QueryResp
  (independent decoder) as the specification's `reported` input.  The history theorems of C06, C07 and C08 are
  corollaries (Props/C06H, C07H, C08H).
-/
import LLTD.Lemmas.Mapper
import LLTD.Lemmas.Decode
import LLTD.Lemmas.NoFault

namespace LLTD
open LLTD.Spec

/-- the pending lists are compared only while the specification (capacity `dom` ≤ the implementation's 1024) has not overflowed -/
structure Ref (st : St) (s : SpecSt) : Prop where
  mapper : Rel st s.mapper
  icon   : s.iconCache = st.icon
  pend   : s.overflow = false → s.pending = st.sees.map toDesc

theorem ref_init : Ref {} {} := ⟨rel_abs _ _ rfl, rfl, fun _ => rfl⟩

theorem removeFirst_head (x : ObsDesc) (xs : List ObsDesc) : removeFirst x (x :: xs) = xs := by simp [removeFirst]

theorem fold_remove_take (l : List ObsDesc) : ∀ n, (l.take n).foldl (fun p d => removeFirst d p) l = l.drop n := by
  induction l with
  | nil => intro n; simp
  | cons x xs ih =>
    intro n
    cases n with
    | zero => rfl
    | succ k => rw [List.take_succ_cons, List.foldl_cons, List.drop_succ_cons, removeFirst_head]; exact ih k

theorem subMultiset_take (l : List ObsDesc) : ∀ n, subMultiset (l.take n) l = true := by
  induction l with
  | nil => intro n; simp [subMultiset]
  | cons x xs ih =>
    intro n
    cases n with
    | zero => simp [subMultiset]
    | succ k => simp [subMultiset, removeFirst_head, ih k]

theorem mem_removeFirst (o d : ObsDesc) (p : List ObsDesc) (h : o ∈ p) : o ∈ removeFirst d p ∨ o = d := by
  induction p with
  | nil => simp at h
  | cons y ys ih =>
    simp only [removeFirst]
    by_cases hd : (d == y) = true
    · rw [if_pos hd]
      rcases List.mem_cons.mp h with rfl | h'
      · exact Or.inr (eq_of_beq hd).symm
      · exact Or.inl h'
    · rw [if_neg hd]
      rcases List.mem_cons.mp h with rfl | h'
      · exact Or.inl (by simp)
      · rcases ih h' with h1 | h1
        · exact Or.inl (List.mem_cons_of_mem _ h1)
        · exact Or.inr h1

theorem mem_fold_remove (o : ObsDesc) (rep p : List ObsDesc) (h : o ∈ p) :
    o ∈ rep.foldl (fun p d => removeFirst d p) p ∨ o ∈ rep := by
  induction rep generalizing p with
  | nil => exact Or.inl h
  | cons d ds ih =>
    simp only [List.foldl_cons]
    rcases mem_removeFirst o d p h with h1 | h1
    · rcases ih _ h1 with h2 | h2
      · exact Or.inl h2
      · exact Or.inr (List.mem_cons_of_mem _ h2)
    · exact Or.inr (by rw [h1]; simp)

theorem length_removeFirst (d : ObsDesc) (p : List ObsDesc) (h : d ∈ p) : (removeFirst d p).length + 1 = p.length := by
  induction p with
  | nil => cases h
  | cons y ys ih =>
    rw [removeFirst]
    by_cases hdy : (d == y) = true
    · rw [if_pos hdy]; rfl
    · rw [if_neg hdy, List.length_cons, List.length_cons, ih]
      exact (List.mem_cons.mp h).resolve_left fun e => hdy (e ▸ beq_self_eq_true d)

/-- removing a sub-multiset as long as the list leaves nothing -/
theorem fold_remove_all : ∀ (ds p : List ObsDesc), subMultiset ds p = true → p.length ≤ ds.length →
    ds.foldl (fun p d => removeFirst d p) p = []
  | [], p, _, hl => List.eq_nil_of_length_eq_zero (Nat.le_zero.mp hl)
  | d :: ds, p, hsub, hl => by
    rw [subMultiset, Bool.and_eq_true] at hsub
    have := length_removeFirst d p (by simpa using hsub.1)
    exact fold_remove_all ds (removeFirst d p) hsub.2 (by rw [List.length_cons] at hl; omega)

theorem reported_take (c : Cfg) (img : List Nat) (seq n : Nat) (more ok : Bool) (st : St) (hc : CfgOk c) (him : ImgOk img)
    (hi : St.Inv st) (hn : n ≤ st.sees.length) :
    reportedOf ([Fx.send ok c.idx (queryFrame c img seq n more ((st.sees.take n).flatMap obsWire))].map toObs) =
      (st.sees.take n).map toDesc := by
  unfold reportedOf
  rw [sends_map_single]
  simp only [List.filterMap_cons, List.filterMap_nil, decodeQueryResp_take c img seq n more st hc him hi hn]

theorem any_key (sees : List Obs) (img : List Nat) :
    (sees.map toDesc).any (fun p => obsKey p == obsKey (probeDesc img)) =
      sees.any (fun p => fEthSrc img == p.src && fRealSrc img == p.realSrc) := by
  rw [List.any_map]
  congr 1
  funext p
  apply Bool.eq_iff_iff.mpr
  simp only [Function.comp, obsKey, toDesc, probeDesc, beq_iff_eq, Bool.and_eq_true, Prod.mk.injEq]
  constructor <;> (rintro ⟨a, b⟩; exact ⟨a.symm, b.symm⟩)

theorem toDesc_obsOfFrame (img : List Nat) : toDesc (C07.obsOfFrame img) = probeDesc img := by
  simp [toDesc, C07.obsOfFrame, probeDesc]

/-- The icon caches agree, and the pending lists do as long as the specification has not overflowed.  `full` says that the
    specification's capacity is the implementation's cap: then both drop the same observations and the lists agree whether or
    not the specification has overflowed. -/
def RestAgree (full : Prop) (st : St) (s : SpecSt) : Prop :=
  s.iconCache = st.icon ∧ (full ∨ s.overflow = false → s.pending = st.sees.map toDesc)

/-- A Probe / Train keeps the agreement: both sides ask whether the frame is for this station, whether its sender is listed
    already and whether there is room, and differ only in the last while the specification's capacity is below the record's. -/
theorem RestAgree.probe {full : Prop} {st : St} {s : SpecSt} (c : Cfg) (g : Glob) (w : World) (img : List Nat) (dom : Nat)
    (hw : NoFault w) (hi : St.Inv st) (hdom : dom ≤ 1024) (hfull : full → dom = 1024) (h : RestAgree full st s) :
    RestAgree full (parseProbe c w st img).st (specReact c.ourMac dom g s img [] .probe) := by
  have ⟨hic, hp⟩ := h
  have hcount := hi.count
  have hcap := hi.cap
  -- the record stays as it is (not for this station, full, or a duplicate): then the specification does not record either
  have stays : ((fRealDst img != c.ourMac) = true ∨ seesFull st.count = true) ∨
      st.sees.any (fun p => fEthSrc img == p.src && fRealSrc img == p.realSrc) = true →
      RestAgree full st (specReact c.ourMac dom g s img [] .probe) := fun why =>
    specReact_probe_cases (P := RestAgree full st) _ _ _ _ _ _ (fun _ => h)
      (fun _ _ _ => ⟨hic, fun hg => hp (hg.imp id Bool.noConfusion)⟩) fun hn hnd hlen => ⟨hic, fun hg => by
        rw [hp hg, any_key] at hnd
        rw [hp hg, List.length_map] at hlen
        rcases why with (hn' | hf) | hany
        · exact absurd (hn'.symm.trans hn) (by decide)
        · rw [seesFull_eq, decide_eq_true_eq] at hf; omega
        · exact absurd (hany.symm.trans hnd) (by decide)⟩
  refine parseProbe_cases (P := fun o => RestAgree full o.st _) c w st img (fun why => stays (.inl why)) ?_
    (fun _ _ _ hany => stays (.inr hany)) ?_
  · intro _ _ hm; rw [malloc_nf w _ hw] at hm; exact Bool.noConfusion hm
  · -- recorded: no duplicate on either side, and the specification has room while it has not overflowed
    intro hn hf _ hany
    have hlt : st.sees.length < 1024 := by
      rw [seesFull_eq, decide_eq_false_iff_not] at hf; omega
    refine specReact_probe_cases (P := RestAgree full _) _ _ _ _ _ _ (fun hs => ⟨hic, fun hg => ?_⟩) (fun _ _ hlen => ⟨hic, fun hg => ?_⟩)
      (fun _ _ _ => ⟨hic, fun hg => by rw [hp hg, List.map_cons, toDesc_obsOfFrame]⟩)
    · rcases hs with hs | hd
      · exact absurd (hn.symm.trans hs) (by decide)
      · rw [hp hg, any_key, hany] at hd; exact Bool.noConfusion hd
    · rcases hg with hg | hg
      · rw [hp (.inl hg), List.length_map, hfull hg] at hlen; omega
      · exact Bool.noConfusion hg

theorem rest_step (full : Prop) (c : Cfg) (g : Glob) (w : World) (st : St) (img : List Nat) (s : SpecSt) (dom : Nat)
    (hc : CfgOk c) (hmac : c.failMac = false) (hw : NoFault w) (hi : St.Inv st) (him : ImgOk img)
    (hdom : dom ≤ 1024) (hfull : full → dom = 1024) (h : RestAgree full st s) :
    RestAgree full (parseFrameSt c g w st img).st
      (specStep c.mac dom g s img (reportedOf (obsOf c g img (parseFrameSt c g w st img).fx).fx)) := by
  have hl := him.len
  have ⟨hic, hp⟩ := h
  -- a step that leaves what the record retains alone, against the specification state as it was
  have same : ∀ st' : St, st.sameRet st' → RestAgree full st' s := fun st' hr => ⟨by rw [hic, hr.2], by rw [hr.1]; exact hp⟩
  have hello : st.sameRet (answerHello c g w (preStep st img) img).st := (preStep_ret st img).trans (answerHello_ret c g w _ img)
  rw [parseFrameSt_req]
  simp only [obsOf_fx, specStep_req _ _ _ _ _ _ hl]
  cases reqOf img <;> simp only [reactTo, specReact]
  case discover =>
    by_cases hmm : mapperMatches st (fRealSrc img) = true
    · rw [if_pos hmm]; exact same _ hello
    · rw [if_neg hmm]; exact h
  case emit => exact same _ (parseEmit_ret c w st img)
  case probe => rw [← ourMac_eq c hmac]; exact h.probe c g w img dom hw hi hdom hfull
  case query =>
    -- Query: what was listed is what the mapper reads, and exactly that leaves both lists
    rw [parseQuery_ok c w st img hc hi.count (malloc_nf w _ hw) _ rfl]
    generalize hn : min st.sees.length (queryMaxDescs c.mtuEff) = n
    have hrep := reported_take c img (fSeq img) n (decide (st.sees.length > n)) (w.malloc c.mtuEff).1.send.2 st hc him hi (by omega)
    exact ⟨hic, fun hg => by simp only [hrep, hp hg, List.map_take, fold_remove_take, List.map_drop]⟩
  case large =>
    -- QueryLargeTlv: an icon request fills an empty cache on both sides
    rw [parseQueryLargeTlv_st]
    by_cases hs : fSeq img = 0
    · rw [if_pos hs, if_pos hs]; exact h
    · rw [if_neg hs, if_neg hs, largeFetch_st]
      refine ⟨?_, fun hg => by rw [hp hg, (cmdSt_ret st img).1]⟩
      simp only [X.sizeofDemux_val, X.offQltlvType_val, X.tlvIconImage_val, Nat.add_zero, hic, (cmdSt_ret st img).2]
  case reset0 => exact ⟨rfl, fun _ => rfl⟩
  case reset1 => exact h
  case other => exact h

theorem ref_step (c : Cfg) (g : Glob) (w : World) (st : St) (img : List Nat) (s : SpecSt) (dom : Nat)
    (hc : CfgOk c) (hm : c.failMtu = false) (hmac : c.failMac = false) (hw : NoFault w) (hi : St.Inv st) (him : ImgOk img)
    (hdom : dom ≤ 1024) (hr : Ref st s) :
    Ref (parseFrameSt c g w st img).st
      (specStep c.mac dom g s img (reportedOf (obsOf c g img (parseFrameSt c g w st img).fx).fx)) := by
  have h := rest_step False c g w st img s dom hc hmac hw hi him hdom False.elim ⟨hr.icon, fun hg => hr.pend (hg.resolve_left id)⟩
  exact ⟨rel_step _ _ _ c g w st img s hc hm him.len hr.mapper, h.1, fun ho => h.2 (.inr ho)⟩

end LLTD
