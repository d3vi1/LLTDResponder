/-
  The TLV writers of lltdTlvOps.c as translated, composed the way `answerHello` (lltdBlock.c) composes them
  (`offset += setXTLV(buffer, offset, …)` one after the other on the zeroed transmit buffer), write exactly the model's `helloTlvs`.
  Trusted: the composition itself (`helloChain`: the order of the calls, the wireless block guarded by the mode getter, the offset
  bookkeeping) is transcribed by hand from answerHello and tied to the C text by the correspondence runs only.
-/
import LLTD.Lemmas.TranslatedWireEq

namespace LLTD.TChain
open LLTD LLTD.TWEq

/-- a writer: buffer and offset in, buffer and number of bytes the caller advances by out -/
abbrev Writer := List Nat → Nat → List Nat × Nat

/-- `f` writes exactly `tl` at the offset of a zeroed tail with room and reports its length -/
def Writes (f : Writer) (tl : List Nat) : Prop :=
  ∀ (pre : List Nat) (k : Nat), tl.length ≤ k →
    f (pre ++ List.replicate k 0) pre.length = (pre ++ (tl ++ List.replicate (k - tl.length) 0), tl.length)

/-- `offset += f(buffer, offset); offset += g(buffer, offset);` -/
def seq (f g : Writer) : Writer := fun buf off =>
  let r1 := f buf off
  let r2 := g r1.1 (off + r1.2)
  (r2.1, r1.2 + r2.2)

theorem writes_seq (f g : Writer) (a b : List Nat) (hf : Writes f a) (hg : Writes g b) : Writes (seq f g) (a ++ b) := by
  intro pre k hk
  simp only [List.length_append] at hk
  simp only [seq]
  rw [hf pre k (by omega)]
  simp only
  have := hg (pre ++ a) (k - a.length) (by omega)
  rw [List.length_append] at this
  rw [← List.append_assoc, this]
  have e : k - a.length - b.length = k - (a.length + b.length) := by omega
  simp only [List.append_assoc, List.length_append, e]

theorem Writes.seq {f g : Writer} {a b : List Nat} (hf : Writes f a) (hg : Writes g b) : Writes (seq f g) (a ++ b) :=
  writes_seq f g a b hf hg

/-- a writer proved to store `tl` (two header bytes and `n` of value) at the offset of any buffer does so on a zeroed tail -/
theorem writes_of_eq {f : Writer} {tl : List Nat} (n : Nat) (htl : tl.length = n + 2)
    (h : ∀ pre rest w0 w1, (f (pre ++ w0 :: w1 :: rest) pre.length).1 = pre ++ (tl ++ rest.drop n) ∧
      (f (pre ++ w0 :: w1 :: rest) pre.length).2 = n + 2) : Writes f tl := by
  intro pre k hk
  obtain ⟨m, rfl⟩ : ∃ m, k = m + 2 := ⟨k - 2, by omega⟩
  have hr : List.replicate (m + 2) 0 = 0 :: 0 :: List.replicate m 0 := rfl
  have e : f (pre ++ 0 :: 0 :: List.replicate m 0) pre.length = (pre ++ (tl ++ (List.replicate m 0).drop n), n + 2) :=
    Prod.ext (h pre (List.replicate m 0) 0 0).1 (h pre (List.replicate m 0) 0 0).2
  rw [hr, e, htl]
  rw [List.drop_replicate, Nat.add_sub_add_right]

def skip : Writer := fun buf _ => (buf, 0)
theorem writes_skip : Writes skip [] := by intro pre k _; simp [skip]

def wHostId (env : TW.Env) : Writer := fun b o => ((TW.setHostIdTLV env b o).buffer, (TW.setHostIdTLV env b o).ret)
def wChar (env : TW.Env) : Writer := fun b o => ((TW.setCharacteristicsTLV env b o).buffer, (TW.setCharacteristicsTLV env b o).ret)
def wMedium (env : TW.Env) : Writer := fun b o => ((TW.setPhysicalMediumTLV env b o).buffer, (TW.setPhysicalMediumTLV env b o).ret)
def wIpv4 (env : TW.Env) : Writer := fun b o => ((TW.setIPv4TLV env b o).buffer, (TW.setIPv4TLV env b o).ret)
def wIpv6 (env : TW.Env) : Writer := fun b o => ((TW.setIPv6TLV env b o).buffer, (TW.setIPv6TLV env b o).ret)
def wPerf (env : TW.Env) : Writer := fun b o => ((TW.setPerfCounterTLV env b o).buffer, (TW.setPerfCounterTLV env b o).ret)
def wSpeed (env : TW.Env) : Writer := fun b o => ((TW.setLinkSpeedTLV env b o).buffer, (TW.setLinkSpeedTLV env b o).ret)
def wHost (env : TW.Env) : Writer := fun b o => ((TW.setHostnameTLV env b o).buffer, (TW.setHostnameTLV env b o).ret)
def wMode (env : TW.Env) : Writer := fun b o => ((TW.setWirelessTLV env b o).buffer, (TW.setWirelessTLV env b o).ret)
def wBssid (env : TW.Env) : Writer := fun b o => ((TW.setBSSIDTLV env b o).buffer, (TW.setBSSIDTLV env b o).ret)
def wSsid (env : TW.Env) : Writer := fun b o => ((TW.setSSIDTLV env b o).buffer, (TW.setSSIDTLV env b o).ret)
def wRate (env : TW.Env) : Writer := fun b o => ((TW.setWifiMaxRateTLV env b o).buffer, (TW.setWifiMaxRateTLV env b o).ret)
def wRssi (env : TW.Env) : Writer := fun b o => ((TW.setWifiRssiTLV env b o).buffer, (TW.setWifiRssiTLV env b o).ret)
def wQos (env : TW.Env) : Writer := fun b o => ((TW.setQosCharacteristicsTLV env b o).buffer, (TW.setQosCharacteristicsTLV env b o).ret)
def wIcon (env : TW.Env) : Writer := fun b o => ((TW.setIconImageTLV env b o).buffer, (TW.setIconImageTLV env b o).ret)
def wFriendly (env : TW.Env) : Writer := fun b o => ((TW.setFriendlyNameTLV env b o).buffer, (TW.setFriendlyNameTLV env b o).ret)
def wEop (env : TW.Env) : Writer := fun b o => ((TW.setEndOfPropertyTLV env b o).buffer, (TW.setEndOfPropertyTLV env b o).ret)

/-- the wireless block of answerHello: entered when the mode getter succeeds -/
def wifiChain (env : TW.Env) (wifi : Bool) : Writer :=
  if wifi then seq (wMode env) (seq (wBssid env) (seq (wSsid env) (seq (wRate env) (wRssi env)))) else skip

/-- the property list as answerHello writes it -/
def helloChain (env : TW.Env) (wifi : Bool) : Writer :=
  seq (wHostId env) (seq (wChar env) (seq (wMedium env) (seq (wIpv4 env) (seq (wIpv6 env) (seq (wPerf env) (seq (wSpeed env)
    (seq (wHost env) (seq (wifiChain env wifi) (seq (wQos env) (seq (wIcon env) (seq (wFriendly env) (wEop env))))))))))))

section
variable (base : TW.Env) (c : Cfg) (g : Glob)

theorem w_hostId (hc : CfgOk c) : Writes (wHostId (envOf c g base)) (tlvHostId c) :=
  writes_of_eq 6 (by rw [tlvHostId, tlv_length, ourMac_length c hc]) fun pre rest w0 w1 => setHostIdTLV_eq base c g pre rest w0 w1 hc

theorem w_char : Writes (wChar (envOf c g base)) (tlvCharacteristics c) :=
  writes_of_eq 4 (by rw [tlvCharacteristics, tlv_length, be_length]) (setCharacteristicsTLV_eq base c g)

theorem w_medium (hr : c.iftype < u32) : Writes (wMedium (envOf c g base)) (tlvIfType c) :=
  writes_of_eq 4 (by rw [tlvIfType, tlv_length, be_length]) fun pre rest w0 w1 => setPhysicalMediumTLV_eq base c g pre rest w0 w1 hr

theorem w_ipv4 (hc : CfgOk c) (hb : isBytes c.ipv4) : Writes (wIpv4 (envOf c g base)) (tlvIpv4 c) :=
  writes_of_eq 4 (by rw [tlvIpv4, tlv_length, ipv4_value_length c hc])
    fun pre rest w0 w1 => setIPv4TLV_eq base c g pre rest w0 w1 hc hb

theorem w_ipv6 (hc : CfgOk c) : Writes (wIpv6 (envOf c g base)) (tlvIpv6 c) :=
  writes_of_eq 16 (by rw [tlvIpv6, tlv_length, ipv6_value_length c hc])
    fun pre rest w0 w1 => setIPv6TLV_eq base c g pre rest w0 w1 hc

theorem w_perf : Writes (wPerf (envOf c g base)) tlvPerf :=
  writes_of_eq 8 (by decide) (setPerfCounterTLV_stores (envOf c g base))

theorem w_speed (hr : c.speed < u32) : Writes (wSpeed (envOf c g base)) (tlvSpeed c) :=
  writes_of_eq 4 (by rw [tlvSpeed, tlv_length, be_length]) fun pre rest w0 w1 => setLinkSpeedTLV_eq base c g pre rest w0 w1 hr

theorem w_host (hl : g.host.length < 18446744073709551616) : Writes (wHost (envOf c g base)) (tlvHostname g) :=
  writes_of_eq (g.host.take 32).length (by rw [tlvHostname, tlv_length]) fun pre rest w0 w1 => by
    -- the string writers report `2 + n`
    rw [Nat.add_comm]; exact setHostnameTLV_eq base c g pre rest w0 w1 hl

theorem w_qos : Writes (wQos (envOf c g base)) tlvQos :=
  writes_of_eq 4 (by decide) (setQosCharacteristicsTLV_eq (envOf c g base))

theorem w_icon : Writes (wIcon (envOf c g base)) tlvIcon :=
  writes_of_eq 0 (by decide) (setIconImageTLV_eq (envOf c g base))

theorem w_friendly : Writes (wFriendly (envOf c g base)) tlvFriendly :=
  writes_of_eq 0 (by decide) (setFriendlyNameTLV_eq (envOf c g base))

theorem w_eop : Writes (wEop (envOf c g base)) [X.eop] := by
  intro pre k hk
  obtain ⟨m, rfl⟩ : ∃ m, k = m + 1 := ⟨k - 1, by simp at hk; omega⟩
  have h := setEndOfPropertyTLV_eq (envOf c g base) pre (List.replicate m 0) 0
  rw [List.replicate_succ]
  exact Prod.ext h.1 h.2

theorem w_mode (hw : c.wifi = true) (hm : c.mode < 256) : Writes (wMode (envOf c g base)) (tlvWifiMode c) :=
  writes_of_eq 1 (by rw [tlvWifiMode, tlv_length]; rfl) fun pre rest w0 w1 => setWirelessTLV_eq base c g pre rest w0 w1 hw hm

theorem w_bssid (hc : CfgOk c) : Writes (wBssid (envOf c g base)) (tlvBssid c) := by
  cases hf : c.failBssid
  · rw [show tlvBssid c = tlv X.tlvBssid c.bssid by simp [tlvBssid, hf]]
    exact writes_of_eq 6 (by rw [tlv_length, hc.bssid6]) fun pre rest w0 w1 => by
      have h := setBSSIDTLV_stores base c g pre rest w0 w1 hc
      rwa [hf] at h
  · rw [show tlvBssid c = [] by simp [tlvBssid, hf]]
    intro pre k _
    have h := setBSSIDTLV_fail base c g (pre ++ List.replicate k 0) pre.length hf
    simpa using Prod.ext h.1 h.2

theorem w_ssid (hl : c.ssid.length < 18446744073709551616) : Writes (wSsid (envOf c g base)) (tlvSsid c) :=
  writes_of_eq (c.ssid.take 32).length (by rw [tlvSsid, tlv_length]) fun pre rest w0 w1 => by
    -- `2 + n`, as in `w_host`
    rw [Nat.add_comm]; exact setSSIDTLV_eq base c g pre rest w0 w1 hl

theorem w_rate (hr : c.rate < 65536) : Writes (wRate (envOf c g base)) (tlvRate c) :=
  writes_of_eq 2 (by rw [tlvRate, tlv_length, be_length]) fun pre rest w0 w1 => setWifiMaxRateTLV_eq base c g pre rest w0 w1 hr

theorem w_rssi (hlo : -128 ≤ c.rssi) (hhi : c.rssi ≤ 127) : Writes (wRssi (envOf c g base)) (tlvRssi c) :=
  writes_of_eq 4 (by rw [tlvRssi, tlv_length, be_length]) fun pre rest w0 w1 => setWifiRssiTLV_eq base c g pre rest w0 w1 hlo hhi

/-- an environment that hands out, for an uninitialised local array, as many bytes as the array has.  No proof uses it: the writers
    with such a local (`setPerfCounterTLV`, `setBSSIDTLV`) store every byte of it before they read it -/
structure EnvOk (base : TW.Env) : Prop where
  un6 : 6 ≤ (base.uninit 6).length
  un8 : 8 ≤ (base.uninit 8).length

theorem wifiChain_writes (hc : CfgOk c) (hm : c.mode < 256) (hr : c.rate < 65536) (hlo : -128 ≤ c.rssi) (hhi : c.rssi ≤ 127)
    (hl : c.ssid.length < 18446744073709551616) (he : EnvOk base) :
    Writes (wifiChain (envOf c g base) c.wifi) (wifiTlvs c) := by
  cases hw : c.wifi
  · simp only [wifiChain, wifiTlvs, hw, Bool.false_eq_true, ↓reduceIte]; exact writes_skip
  · simp only [wifiChain, wifiTlvs, hw, ↓reduceIte]
    have := (w_mode base c g hw hm).seq ((w_bssid base c g hc).seq ((w_ssid base c g hl).seq ((w_rate base c g hr).seq
      (w_rssi base c g hlo hhi))))
    simpa [List.append_assoc] using this

/-- the property list of a Hello, written by the translated writers in answerHello's order into a zeroed buffer with room, is the
    model's `helloTlvs c g`, and the offsets add up to its length -/
theorem helloChain_writes (hc : CfgOk c) (hif : c.iftype < u32) (hsp : c.speed < u32) (hm : c.mode < 256) (hr : c.rate < 65536)
    (hlo : -128 ≤ c.rssi) (hhi : c.rssi ≤ 127) (hb4 : isBytes c.ipv4) (hh : g.host.length < 18446744073709551616)
    (hl : c.ssid.length < 18446744073709551616) (he : EnvOk base) :
    Writes (helloChain (envOf c g base) c.wifi) (helloTlvs c g) := by
  have := (w_hostId base c g hc).seq ((w_char base c g).seq ((w_medium base c g hif).seq ((w_ipv4 base c g hc hb4).seq
    ((w_ipv6 base c g hc).seq ((w_perf base c g).seq ((w_speed base c g hsp).seq ((w_host base c g hh).seq
    ((wifiChain_writes base c g hc hm hr hlo hhi hl he).seq ((w_qos base c g).seq ((w_icon base c g).seq ((w_friendly base c g).seq
    (w_eop base c g))))))))))))
  simpa [helloChain, helloTlvs, List.append_assoc] using this

end

end LLTD.TChain
