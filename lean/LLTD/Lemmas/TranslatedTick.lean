/-
  `automata_tick` of lltdAutomata.c as translated by tools/c2lean.py equals the model's `tick`, for the configuration of the
  daemons: all four objects present, the port wired (`send_hello` and `last_hello_tx_ms` set).  The translator emits the function
  as named blocks `automata_tick.stK`; each stage theorem relates one block to its piece of the model and says which fields of the
  state record the block leaves alone (`sameRest`, `sameEnum`, `onlyEnum`), which is what the next stage needs of it.
-/
import LLTD.Lemmas.TranslatedEq
import LLTD.Lemmas.Tick

namespace LLTD.TEq
open LLTD LLTD.X

/-- the expiry sweep of the tick on the translated record type, so that the loop is followed before the representation changes:
    `+ 60` is the session time-out the sweep of automata_tick adds, `(c + 255) % 256` is `count--` on a `uint8_t` -/
def texpire (now : Nat) : List T.session_entry → Nat → List T.session_entry × Nat
  | [], c => ([], c)
  | x :: xs, c =>
    if x.valid = true ∧ now > (x.last_activity_ts + 60) % 18446744073709551616 then
      ({ x with valid := false } :: (texpire now xs (if c > 0 then (c + 255) % 256 else c)).1,
       (texpire now xs (if c > 0 then (c + 255) % 256 else c)).2)
    else (x :: (texpire now xs c).1, (texpire now xs c).2)

theorem texpire_append (now : Nat) (l1 l2 : List T.session_entry) (c : Nat) :
    texpire now (l1 ++ l2) c =
      ((texpire now l1 c).1 ++ (texpire now l2 (texpire now l1 c).2).1, (texpire now l2 (texpire now l1 c).2).2) := by
  induction l1 generalizing c with
  | nil => simp [texpire]
  | cons x xs ih =>
    simp only [List.cons_append, texpire]
    split <;> simp [ih]

theorem texpire_length (now : Nat) (l : List T.session_entry) (c : Nat) : (texpire now l c).1.length = l.length := by
  induction l generalizing c with
  | nil => rfl
  | cons x xs ih => simp only [texpire]; split <;> simp [ih]

theorem texpire_count (now : Nat) (l : List T.session_entry) (c : Nat) (hc : c < 256) : (texpire now l c).2 < 256 := by
  induction l generalizing c with
  | nil => exact hc
  | cons x xs ih =>
    simp only [texpire]; split
    · apply ih; split; exact Nat.mod_lt _ (by decide); exact hc
    · exact ih c hc

theorem texpire_map (now : Nat) (l : List T.session_entry) (c : Nat) (hc : c < 256)
    (hts : ∀ x ∈ l, x.last_activity_ts + 60 < u64) :
    (texpire now l c).1.map entryOfC = (expireLoop now (l.map entryOfC) c).1 ∧ (texpire now l c).2 = (expireLoop now (l.map entryOfC) c).2 := by
  induction l generalizing c with
  | nil => exact ⟨rfl, rfl⟩
  | cons x xs ih =>
    have hx := hts x (List.mem_cons_self ..)
    have hxs : ∀ y ∈ xs, y.last_activity_ts + 60 < u64 := fun y hy => hts y (List.mem_cons_of_mem _ hy)
    have hmod : (x.last_activity_ts + 60) % 18446744073709551616 = x.last_activity_ts + 60 := Nat.mod_eq_of_lt hx
    simp only [texpire, List.map_cons, expireLoop, hmod, dec_u8 c hc]
    by_cases hq : x.valid = true ∧ now > x.last_activity_ts + 60
    · obtain ⟨i1, i2⟩ := ih (if c > 0 then c - 1 else c) (by split; exact Nat.lt_of_le_of_lt (Nat.sub_le c 1) hc; exact hc) hxs
      rw [if_pos hq, if_pos (show (entryOfC x).valid = true ∧ now > (entryOfC x).last + 60 from hq)]
      exact ⟨congrArg (entryOfC { x with valid := false } :: ·) i1, i2⟩
    · obtain ⟨i1, i2⟩ := ih c hc hxs
      rw [if_neg hq, if_neg (show ¬((entryOfC x).valid = true ∧ now > (entryOfC x).last + 60) from hq)]
      exact ⟨congrArg (entryOfC x :: ·) i1, i2⟩

/-- every slot's activity stamp is far from the end of the 64-bit range, the count is a `uint8_t` -/
structure TickTblOk (t : T.session_table) : Prop where
  hlen : t.entries.length = 16
  hts : ∀ x ∈ t.entries, x.last_activity_ts + 60 < u64
  hcount : t.count < 256

/-- fields of the tick's state record the table stages leave alone -/
def sameRest (a b : T.automata_tick.S) : Prop :=
  b.mapping = a.mapping ∧ b.mapping_extra = a.mapping_extra ∧ b.enumeration = a.enumeration ∧
  b.enumeration_extra = a.enumeration_extra ∧ b.port_last_hello_tx_ms = a.port_last_hello_tx_ms ∧
  b.port_send_hello_calls = a.port_send_hello_calls ∧ b.now_ms = a.now_ms ∧ b.now_s = a.now_s ∧
  b.diverged = a.diverged ∧ b.done = a.done ∧ b.brk = a.brk

theorem sameRest.now_s {a b : T.automata_tick.S} (h : sameRest a b) : b.now_s = a.now_s := h.2.2.2.2.2.2.2.1
theorem sameRest.done {a b : T.automata_tick.S} (h : sameRest a b) : b.done = a.done := h.2.2.2.2.2.2.2.2.2.1
theorem sameRest.brk {a b : T.automata_tick.S} (h : sameRest a b) : b.brk = a.brk := h.2.2.2.2.2.2.2.2.2.2

theorem set_append_mid {α : Type} (A B : List α) (x y : α) : (A ++ x :: B).set A.length y = A ++ y :: B := by
  simp

theorem getD_append_mid {α : Type} (A B : List α) (x d : α) : (A ++ x :: B).getD A.length d = x := by
  simp

theorem tick_loop1_step (e : T.Env) (i : Nat) (s : T.automata_tick.S) {A B : List T.session_entry} {x : T.session_entry}
    (hA : A.length = i) (hent : s.sessions.entries = A ++ x :: B) (hd : s.done = false) (hb : s.brk = false) (hn : s.now_s = e.nowS) :
    (T.automata_tick.loop1 e i s).sessions.entries = A ++ (texpire e.nowS [x] s.sessions.count).1 ++ B ∧
    (T.automata_tick.loop1 e i s).sessions.count = (texpire e.nowS [x] s.sessions.count).2 ∧
    (T.automata_tick.loop1 e i s).sessions.all_complete = s.sessions.all_complete ∧
    sameRest s (T.automata_tick.loop1 e i s) := by
  subst hA
  unfold T.automata_tick.loop1
  simp only [hd, hb, Bool.or_self, Bool.false_eq_true, hent, getD_append_mid, set_append_mid, hn, texpire, ↓reduceIte]
  by_cases hv : x.valid = true
  · by_cases hex : e.nowS > (x.last_activity_ts + 60) % 18446744073709551616
    · simp only [hv, hex, and_self, decide_true, ↓reduceIte]
      by_cases hc : s.sessions.count > 0 <;> simp [hc, sameRest, hd, hb, hn]
    · simp [hv, hex, sameRest, hd, hb, hent, hn]
  · simp [hv, sameRest, hd, hb, hent, hn]

theorem sameRest.refl (a : T.automata_tick.S) : sameRest a a := ⟨rfl, rfl, rfl, rfl, rfl, rfl, rfl, rfl, rfl, rfl, rfl⟩
theorem sameRest.trans {a b c : T.automata_tick.S} (h1 : sameRest a b) (h2 : sameRest b c) : sameRest a c := by
  obtain ⟨a1, a2, a3, a4, a5, a6, a7, a8, a9, a10, a11⟩ := h1
  obtain ⟨b1, b2, b3, b4, b5, b6, b7, b8, b9, b10, b11⟩ := h2
  exact ⟨b1.trans a1, b2.trans a2, b3.trans a3, b4.trans a4, b5.trans a5, b6.trans a6, b7.trans a7, b8.trans a8, b9.trans a9, b10.trans a10, b11.trans a11⟩

theorem tick_loop_expire (e : T.Env) (t : T.session_table) (ht : TickTblOk t) (s0 : T.automata_tick.S)
    (h0 : s0.sessions = t) (hd : s0.done = false) (hb : s0.brk = false) (hn : s0.now_s = e.nowS) :
    (CSem.loopRange 0 16 (T.automata_tick.loop1 e) s0).sessions.entries = (texpire e.nowS t.entries t.count).1 ∧
    (CSem.loopRange 0 16 (T.automata_tick.loop1 e) s0).sessions.count = (texpire e.nowS t.entries t.count).2 ∧
    (CSem.loopRange 0 16 (T.automata_tick.loop1 e) s0).sessions.all_complete = t.all_complete ∧
    sameRest s0 (CSem.loopRange 0 16 (T.automata_tick.loop1 e) s0) := by
  have hinv := loopRange_inv (fun i (s : T.automata_tick.S) =>
      s.sessions.entries = (texpire e.nowS (t.entries.take i) t.count).1 ++ t.entries.drop i ∧
      s.sessions.count = (texpire e.nowS (t.entries.take i) t.count).2 ∧
      s.sessions.all_complete = t.all_complete ∧ sameRest s0 s)
    16 (T.automata_tick.loop1 e) 16 0 s0 (by omega)
    ⟨by simp [texpire, h0], by simp [texpire, h0], by rw [h0], sameRest.refl s0⟩
    (by
      intro i s _ hi ⟨q1, q2, q3, q4⟩
      have hil : i < t.entries.length := by rw [ht.hlen]; exact hi
      have hdrop : t.entries.drop i = t.entries[i] :: t.entries.drop (i + 1) := (List.drop_eq_getElem_cons hil)
      have hAlen : (texpire e.nowS (t.entries.take i) t.count).1.length = i :=
        (texpire_length ..).trans (List.length_take_of_le (Nat.le_of_lt hil))
      rw [hdrop] at q1
      obtain ⟨a1, a2, a3, a4⟩ := tick_loop1_step e i s hAlen q1 (q4.done.trans hd) (q4.brk.trans hb) (q4.now_s.trans hn)
      rw [List.take_succ_eq_append_getElem hil, texpire_append]
      refine ⟨?_, ?_, a3.trans q3, q4.trans a4⟩
      · rw [a1, q2]
      · rw [a2, q2])
  obtain ⟨l1, l2, l3, l4⟩ := hinv
  have h16 : t.entries.take 16 = t.entries := List.take_of_length_le (Nat.le_of_eq ht.hlen)
  have hd16 : t.entries.drop 16 = [] := List.drop_eq_nil_of_le (Nat.le_of_eq ht.hlen)
  rw [h16, hd16, List.append_nil] at l1
  rw [h16] at l2
  exact ⟨l1, l2, l3, l4⟩

/-- stage 3 of the tick (the `if (sessions)` block): the expiry sweep followed by the status update is the model's `Table.expire` -/
theorem tick_st3 (e : T.Env) (s : T.automata_tick.S) (ht : TickTblOk s.sessions) (hd : s.done = false) (hb : s.brk = false) (hn : s.now_s = e.nowS) :
    tableOfC (T.automata_tick.st3 e s).sessions = (tableOfC s.sessions).expire e.nowS ∧ sameRest s (T.automata_tick.st3 e s) ∧
    (T.automata_tick.st3 e s).sessions.entries.length = 16 ∧ (T.automata_tick.st3 e s).sessions.count < 256 := by
  obtain ⟨l1, l2, l3, l4⟩ := tick_loop_expire e s.sessions ht s rfl hd hb hn
  unfold T.automata_tick.st3
  simp only []
  generalize CSem.loopRange 0 16 (T.automata_tick.loop1 e) s = L at l1 l2 l3 l4 ⊢
  obtain ⟨m1, m2⟩ := texpire_map e.nowS s.sessions.entries s.sessions.count ht.hcount ht.hts
  have hlen : L.sessions.entries.length = 16 := by rw [l1, texpire_length]; exact ht.hlen
  have hup := session_table_update_complete_status_eq e L.sessions hlen
  refine ⟨?_, ?_, ?_, ?_⟩
  · rw [hup]
    unfold Table.expire
    congr 1
    simp only [tableOfC, Table.mk.injEq]
    exact ⟨by rw [l1, m1], by rw [l2, m2], l3⟩
  · -- the block clears `brk` behind the loop, and it was clear before
    obtain ⟨a1, a2, a3, a4, a5, a6, a7, a8, a9, a10, -⟩ := l4
    exact ⟨a1, a2, a3, a4, a5, a6, a7, a8, a9, a10, hb.symm⟩
  · have := congrArg (fun t : Table => t.entries.length) hup
    simpa [tableOfC, Table.updateStatus, hlen] using this
  · have h2 : (T.session_table_update_complete_status e L.sessions).table.count = L.sessions.count := congrArg Table.count hup
    rw [h2, l2]; exact texpire_count _ _ _ ht.hcount

/-- fields the mapping stage leaves alone -/
def sameEnum (a b : T.automata_tick.S) : Prop :=
  b.enumeration = a.enumeration ∧ b.enumeration_extra = a.enumeration_extra ∧ b.port_last_hello_tx_ms = a.port_last_hello_tx_ms ∧
  b.port_send_hello_calls = a.port_send_hello_calls ∧ b.now_ms = a.now_ms ∧ b.now_s = a.now_s ∧ b.done = a.done ∧ b.brk = a.brk

theorem tickTblOk_clear (e : T.Env) (t : T.session_table) : TickTblOk (T.session_table_clear e t).table := by
  refine ⟨by simp [T.session_table_clear], ?_, by simp [T.session_table_clear]⟩
  intro x hx
  simp only [T.session_table_clear, List.mem_replicate] at hx
  rw [hx.2]; decide

/-- stage 2 of the tick (the `if (mapping && mapping->extra)` block) is the model's `tickMapStage` -/
theorem tick_st2 (e : T.Env) (hnow : e.nowS < u64) (s : T.automata_tick.S) (hok : AutOk s.mapping) (hm : IsMapping s.mapping)
    (ht : TickTblOk s.sessions) :
    (tickMapStage (some (fsmOfC s.mapping, some (mapOfC s.mapping_extra))) (some (tableOfC s.sessions)) e.nowS) =
      (some (fsmOfC (T.automata_tick.st2 e s).mapping, some (mapOfC (T.automata_tick.st2 e s).mapping_extra)),
       some (tableOfC (T.automata_tick.st2 e s).sessions)) ∧
    sameEnum s (T.automata_tick.st2 e s) ∧ (T.automata_tick.st2 e s).diverged = s.diverged ∧
    sameTables s.mapping (T.automata_tick.st2 e s).mapping ∧ TickTblOk (T.automata_tick.st2 e s).sessions := by
  obtain ⟨i1, i2⟩ := mapping_check_inactive_timeout_eq e s.mapping_extra
  obtain ⟨w1, w2, w3⟩ := switch_state_mapping_eq e hnow s.mapping (-1) hok hm
  simp only [T.automata_tick.st2, T.automata_tick.st1, tickMapStage_some, i1, i2, sameEnum, ite_self]
  cases mapCheckInactive (mapOfC s.mapping_extra) e.nowS
  · simp only [Bool.false_eq_true, (mapping_check_charge_timeout_eq e s.mapping_extra).1, sameTables, and_self, true_and, ↓reduceIte]
    exact ht
  · simp only [w1, w2, (mapping_check_charge_timeout_eq e _).1, mapping_reset_charge_eq, session_table_clear_eq,
      Option.map_some, Bool.or_false, and_self, true_and, ↓reduceIte]
    exact ⟨rfl, w3, tickTblOk_clear e s.sessions⟩

/-- the enumeration stages touch the enumeration automaton, the RepeatBand record, the port's time stamp and callback count,
    and scratch locals only -/
def onlyEnum (a b : T.automata_tick.S) : Prop :=
  b.mapping = a.mapping ∧ b.mapping_extra = a.mapping_extra ∧ b.sessions = a.sessions ∧ b.now_ms = a.now_ms ∧ b.now_s = a.now_s ∧
  b.diverged = a.diverged ∧ b.done = a.done ∧ b.brk = a.brk

theorem onlyEnum.now_ms {a b : T.automata_tick.S} (h : onlyEnum a b) : b.now_ms = a.now_ms := h.2.2.2.1

theorem onlyEnum.refl (a : T.automata_tick.S) : onlyEnum a a := ⟨rfl, rfl, rfl, rfl, rfl, rfl, rfl, rfl⟩
theorem onlyEnum.trans {a b c : T.automata_tick.S} (h1 : onlyEnum a b) (h2 : onlyEnum b c) : onlyEnum a c := by
  obtain ⟨a1, a2, a3, a4, a5, a6, a7, a8⟩ := h1
  obtain ⟨b1, b2, b3, b4, b5, b6, b7, b8⟩ := h2
  exact ⟨b1.trans a1, b2.trans a2, b3.trans a3, b4.trans a4, b5.trans a5, b6.trans a6, b7.trans a7, b8.trans a8⟩

/-- the environment's two clocks agree (seconds = ms / 1000) and are far from wrapping -/
structure EnvOk (e : T.Env) : Prop where
  hs : e.nowS = e.nowMs / 1000
  hc : ClockOk e

structure EnumOk (a : T.automata) : Prop where
  hno : a.transitions_no ≤ a.transitions_table.length
  his : IsEnumeration a

theorem enumOk_same {a b : T.automata} (h : sameTables a b) (ha : EnumOk a) : EnumOk b := by
  obtain ⟨h1, h2, h3⟩ := h
  refine ⟨by rw [h1, h2]; exact ha.hno, ?_⟩
  unfold IsEnumeration; rw [(rowsOfC_same a b ⟨h1, h2, h3⟩).1]; exact ha.his

theorem enumOk_step (e : T.Env) (a : T.automata) (i : Int) (ha : EnumOk a) :
    fsmOfC (T.switch_state_enumeration e a i).autom = stepEnumeration (fsmOfC a) i e.nowS ∧
    EnumOk (T.switch_state_enumeration e a i).autom :=
  ⟨switch_state_enumeration_eq' e a i ha.hno ha.his, enumOk_same (switch_state_enumeration_eq e a i ha.hno).2 ha⟩

/-- block end: band_update_stats then band_choose_hello_time -/
theorem tick_st9 (e : T.Env) (he : EnvOk e) (s : T.automata_tick.S) (hb : BandOk s.enumeration_extra) :
    bandOfC (T.automata_tick.st9 e s).enumeration_extra = bandChooseHelloTime (bandUpdateStats (bandOfC s.enumeration_extra) e.nowMs) e.nowMs ∧
    BandOk (T.automata_tick.st9 e s).enumeration_extra ∧ onlyEnum s (T.automata_tick.st9 e s) ∧
    (T.automata_tick.st9 e s).enumeration = s.enumeration ∧ (T.automata_tick.st9 e s).port_last_hello_tx_ms = s.port_last_hello_tx_ms ∧
    (T.automata_tick.st9 e s).port_send_hello_calls = s.port_send_hello_calls := by
  have hok := band_update_ok e s.enumeration_extra he.hc hb
  simp only [T.automata_tick.st9, onlyEnum, and_self, and_true]
  exact ⟨block_end e s.enumeration_extra he.hc hb, band_choose_ok e _ he.hc hok⟩

/-- `simp` does not take a field out of `if c then { s with .. } else s`; with this (and `ite_self`) the state the tick threads
    stays one record whose fields are `if`s -/
theorem automata_tick.S.ite_mk (c : Prop) [Decidable c]
    (a0 b0 a1 b1 : T.automata) (a2 b2 : T.session_table) (a3 b3 : T.lltd_automata_tick_port) (a4 b4 a5 b5 : Nat)
    (a6 b6 : T.mapping_state) (a7 b7 : Bool) (a8 b8 : Nat) (a9 b9 : T.band_state) (a10 b10 a11 b11 : Bool)
    (a12 b12 a13 b13 a14 b14 : Nat) (a15 b15 a16 b16 : Bool) :
    (if c then (⟨a0, a1, a2, a3, a4, a5, a6, a7, a8, a9, a10, a11, a12, a13, a14, a15, a16⟩ : T.automata_tick.S)
      else ⟨b0, b1, b2, b3, b4, b5, b6, b7, b8, b9, b10, b11, b12, b13, b14, b15, b16⟩) =
    ⟨if c then a0 else b0, if c then a1 else b1, if c then a2 else b2, if c then a3 else b3, if c then a4 else b4,
      if c then a5 else b5, if c then a6 else b6, if c then a7 else b7, if c then a8 else b8, if c then a9 else b9,
      if c then a10 else b10, if c then a11 else b11, if c then a12 else b12, if c then a13 else b13, if c then a14 else b14,
      if c then a15 else b15, if c then a16 else b16⟩ := by
  split <;> rfl

/-- the Hello-timeout branch (st8, with st5 = suppressed and st7 = send) is the model's `enumHello` with a wired port -/
theorem tick_st8 (e : T.Env) (he : EnvOk e) (s : T.automata_tick.S) (hb : BandOk s.enumeration_extra) (hen : EnumOk s.enumeration)
    (hnm : s.now_ms = e.nowMs) (hltx : s.port_last_hello_tx_ms ≤ e.nowMs)
    (hdue : s.enumeration_extra.hello_timeout_ts > 0 ∧ e.nowMs ≥ s.enumeration_extra.hello_timeout_ts) :
    let r := enumHello (fsmOfC s.enumeration) (bandOfC s.enumeration_extra) s.port_last_hello_tx_ms .wired e.nowMs
    fsmOfC (T.automata_tick.st8 e s).enumeration = r.1 ∧ bandOfC (T.automata_tick.st8 e s).enumeration_extra = r.2.1 ∧
    (T.automata_tick.st8 e s).port_last_hello_tx_ms = r.2.2.1 ∧
    (T.automata_tick.st8 e s).port_send_hello_calls = s.port_send_hello_calls + r.2.2.2.length ∧
    BandOk (T.automata_tick.st8 e s).enumeration_extra ∧ EnumOk (T.automata_tick.st8 e s).enumeration ∧
    onlyEnum s (T.automata_tick.st8 e s) ∧ (T.automata_tick.st8 e s).port_last_hello_tx_ms ≤ e.nowMs := by
  -- 1000 ms is the minimum Hello interval of the port
  have hlt : s.port_last_hello_tx_ms + 1000 < 18446744073709551616 :=
    Nat.lt_of_le_of_lt (Nat.add_le_add hltx (by decide : 1000 ≤ 100000)) he.hc.1
  have hd64 := diff64_eq e.nowMs s.port_last_hello_tx_ms (Nat.lt_of_le_of_lt (Nat.le_add_right _ 1000) hlt)
  obtain ⟨se1, se2⟩ := enumOk_step e s.enumeration 2 hen
  have hdue' : (bandOfC s.enumeration_extra).helloTs > 0 ∧ e.nowMs ≥ (bandOfC s.enumeration_extra).helloTs := hdue
  simp only [enumHello, if_pos hdue', helloMinIntervalMs_val, T.automata_tick.st8, T.automata_tick.st5, T.automata_tick.st7,
    T.automata_tick.st6, hnm, hd64, Bool.and_eq_true, onlyEnum, eq_bandToC (band_do_hello_eq e s.enumeration_extra he.hc hb),
    he.hc.ms (show 1000 ≤ 100000 by decide), decide_eq_true_eq, automata_tick.S.ite_mk, ite_self]
  by_cases hsup : s.port_last_hello_tx_ms > 0 ∧ diff64 e.nowMs s.port_last_hello_tx_ms < 1000
  · -- suppressed: the deadline moves to one second after the last transmit
    simp only [if_pos hsup, Nat.mod_eq_of_lt hlt, and_self, List.length_nil, Nat.add_zero, true_and]
    exact ⟨rfl, hb, hen, hltx⟩
  · -- sent: callback, stamp, band_do_hello with the post-send floor, the automaton takes the Hello input
    simp only [if_neg hsup, and_self, Nat.le_refl, se1, ← he.hs, bandToC, enumHello_val, and_true, true_and]
    by_cases hfl : (bandDoHello (bandOfC s.enumeration_extra) e.nowMs).helloTs < e.nowMs + 1000 <;>
      simp only [hfl, ↓reduceIte, List.length_singleton, true_and] <;>
      exact ⟨rfl, rfl, ⟨hb.1, hb.2⟩, se2⟩

/-- state Pausing: the Hello branch, then the block branch -/
theorem tick_st10 (e : T.Env) (he : EnvOk e) (s : T.automata_tick.S) (hb : BandOk s.enumeration_extra) (hen : EnumOk s.enumeration)
    (hnm : s.now_ms = e.nowMs) (hltx : s.port_last_hello_tx_ms ≤ e.nowMs) :
    let r := enumHello (fsmOfC s.enumeration) (bandOfC s.enumeration_extra) s.port_last_hello_tx_ms .wired e.nowMs
    fsmOfC (T.automata_tick.st10 e s).enumeration = r.1 ∧ bandOfC (T.automata_tick.st10 e s).enumeration_extra = enumBlock r.2.1 e.nowMs ∧
    (T.automata_tick.st10 e s).port_last_hello_tx_ms = r.2.2.1 ∧
    (T.automata_tick.st10 e s).port_send_hello_calls = s.port_send_hello_calls + r.2.2.2.length ∧
    EnumOk (T.automata_tick.st10 e s).enumeration ∧ onlyEnum s (T.automata_tick.st10 e s) := by
  intro r
  -- the Hello branch: `s1` is the state after it
  obtain ⟨s1, hs1, b1, b2, b3, b4, b5, b6, b7⟩ : ∃ s1, (if s.enumeration_extra.hello_timeout_ts > 0 ∧
        s.now_ms ≥ s.enumeration_extra.hello_timeout_ts then T.automata_tick.st8 e s else s) = s1 ∧
      fsmOfC s1.enumeration = r.1 ∧ bandOfC s1.enumeration_extra = r.2.1 ∧ s1.port_last_hello_tx_ms = r.2.2.1 ∧
      s1.port_send_hello_calls = s.port_send_hello_calls + r.2.2.2.length ∧ BandOk s1.enumeration_extra ∧ EnumOk s1.enumeration ∧
      onlyEnum s s1 := by
    simp only [hnm]
    by_cases hdue : s.enumeration_extra.hello_timeout_ts > 0 ∧ e.nowMs ≥ s.enumeration_extra.hello_timeout_ts
    · obtain ⟨a1, a2, a3, a4, a5, a6, a7, _⟩ := tick_st8 e he s hb hen hnm hltx hdue
      exact ⟨_, if_pos hdue, a1, a2, a3, a4, a5, a6, a7⟩
    · have hr : r = (fsmOfC s.enumeration, bandOfC s.enumeration_extra, s.port_last_hello_tx_ms, []) := if_neg hdue
      exact ⟨_, if_neg hdue, by rw [hr], by rw [hr], by rw [hr], by rw [hr]; rfl, hb, hen, onlyEnum.refl s⟩
  simp only [T.automata_tick.st10, Bool.and_eq_true, decide_eq_true_eq, hs1, show s1.now_ms = e.nowMs from b7.now_ms.trans hnm]
  rw [← b2]
  by_cases hblk : s1.enumeration_extra.block_timeout_ts > 0 ∧ e.nowMs ≥ s1.enumeration_extra.block_timeout_ts
  · obtain ⟨c1, _, c3, c4, c5, c6⟩ := tick_st9 e he s1 b5
    rw [if_pos hblk, c1, c4, c5, c6]
    exact ⟨b1, (if_pos hblk).symm, b3, b4, b6, b7.trans c3⟩
  · rw [if_neg hblk]
    exact ⟨b1, (if_neg hblk).symm, b3, b4, b6, b7⟩

/-- the table-driven update at the head of stage 11, which the translator leaves inline -/
def tickUpd (e : T.Env) (s : T.automata_tick.S) : T.automata_tick.S :=
  if ((s.enumeration.current_state : Int) != 0) = true then
    if s.table_empty = true then T.automata_tick.st4 e s
    else if s.all_complete = true then { s with enumeration := (T.switch_state_enumeration e s.enumeration 0).autom }
    else { s with enumeration := (T.switch_state_enumeration e s.enumeration 1).autom }
  else s

theorem tick_upd (e : T.Env) (s : T.automata_tick.S) (hb : BandOk s.enumeration_extra) (hen : EnumOk s.enumeration) :
    (fsmOfC (tickUpd e s).enumeration, bandOfC (tickUpd e s).enumeration_extra) =
      enumUpdate (fsmOfC s.enumeration) (bandOfC s.enumeration_extra) s.table_empty s.all_complete e.nowS ∧
    BandOk (tickUpd e s).enumeration_extra ∧ EnumOk (tickUpd e s).enumeration ∧ onlyEnum s (tickUpd e s) ∧
    (tickUpd e s).port_last_hello_tx_ms = s.port_last_hello_tx_ms ∧ (tickUpd e s).port_send_hello_calls = s.port_send_hello_calls := by
  -- the case is fixed before the block is opened: each leaf follows one path of the C text
  by_cases h0 : s.enumeration.current_state = 0
  · have hc : ((s.enumeration.current_state : Int) != 0) = false := by rw [h0]; rfl
    have hm : ¬ (fsmOfC s.enumeration).state ≠ 0 := fun h => h h0
    simp only [tickUpd, hc, enumUpdate, onlyEnum, Bool.false_eq_true, if_neg hm, and_self, and_true, true_and, ↓reduceIte]
    exact ⟨hb, hen⟩
  · have hc : ((s.enumeration.current_state : Int) != 0) = true :=
      (congrArg (!·) (TWEq.int_beq _ 0)).trans (by simpa using h0)
    have hm : (fsmOfC s.enumeration).state ≠ 0 := h0
    cases hte : s.table_empty
    · -- a step on "sessions complete" (0) or "sessions not complete" (1)
      cases hac : s.all_complete <;>
        simp only [tickUpd, hc, hte, hac, enumUpdate, onlyEnum, if_pos hm, Bool.false_eq_true, and_self, and_true,
          enumSessNotComplete_val, enumSessComplete_val, ↓reduceIte] <;>
        exact ⟨by rw [(enumOk_step e _ _ hen).1]; rfl, hb, (enumOk_step e _ _ hen).2⟩
    · simp only [tickUpd, hc, hte, enumUpdate, onlyEnum, T.automata_tick.st4, if_pos hm, and_self, and_true, ↓reduceIte]
      exact ⟨rfl, ⟨hb.1, hb.2⟩, ⟨hen.hno, hen.his⟩⟩

/-- stage 11 of the tick (the `if (enumeration && enumeration->extra)` block) is the model's `tickEnumStage` with a wired port -/
theorem tick_st11 (e : T.Env) (he : EnvOk e) (s : T.automata_tick.S) (hb : BandOk s.enumeration_extra) (hen : EnumOk s.enumeration)
    (hnm : s.now_ms = e.nowMs) (hltx : s.port_last_hello_tx_ms ≤ e.nowMs) :
    let R := tickEnumStage (some (fsmOfC s.enumeration, some (bandOfC s.enumeration_extra))) (some (tableOfC s.sessions))
      s.port_last_hello_tx_ms .wired e.nowMs
    R.1 = some (fsmOfC (T.automata_tick.st11 e s).enumeration, some (bandOfC (T.automata_tick.st11 e s).enumeration_extra)) ∧
    R.2.1 = (T.automata_tick.st11 e s).port_last_hello_tx_ms ∧
    (T.automata_tick.st11 e s).port_send_hello_calls = s.port_send_hello_calls + R.2.2.length ∧
    onlyEnum s (T.automata_tick.st11 e s) := by
  intro R
  obtain ⟨ie1, ie2⟩ := session_table_is_empty_eq e s.sessions
  obtain ⟨ac1, ac2⟩ := session_table_all_complete_eq e s.sessions
  -- the table-driven update: `s1` is the state after it
  obtain ⟨u1, u2, u3, u4, u5, u6⟩ := tick_upd e
    { s with table_empty := (tableOfC s.sessions).isEmpty, all_complete := (tableOfC s.sessions).allComplete } hb hen
  have hst : T.automata_tick.st11 e s = (fun s1 => if ((s1.enumeration.current_state : Int) == 1) = true then T.automata_tick.st10 e s1 else s1)
      (tickUpd e { s with table_empty := (tableOfC s.sessions).isEmpty, all_complete := (tableOfC s.sessions).allComplete }) := by
    unfold T.automata_tick.st11
    simp only [ie1, ie2, ac1, ac2]
    rfl
  generalize tickUpd e _ = s1 at u1 u2 u3 u4 u5 u6 hst
  have hc1 : ((s1.enumeration.current_state : Int) == 1) = (s1.enumeration.current_state == 1) := TWEq.int_beq _ 1
  rw [hst]
  simp only [R, tickEnumStage, tableEmptyOf, allCompleteOf, ← he.hs, ← u1, hc1, beq_iff_eq]
  by_cases h1 : s1.enumeration.current_state = 1
  · obtain ⟨t1, t2, t3, t4, _, t6⟩ := tick_st10 e he s1 u2 u3 (u4.now_ms.trans hnm) (u5 ▸ hltx)
    rw [u5] at t1 t2 t3 t4
    rw [if_pos h1, if_pos (show (fsmOfC s1.enumeration).state = 1 from h1)]
    exact ⟨by rw [t1, t2], t3.symm, by rw [t4, u6], u4.trans t6⟩
  · rw [if_neg h1, if_neg (show ¬(fsmOfC s1.enumeration).state = 1 from h1)]
    exact ⟨rfl, u5.symm, by rw [u6]; rfl, u4⟩

/-- the mapping engine, its extra state, the session table, the enumeration automaton, the RepeatBand record and the port's
    last-transmit stamp after the call are the model's, the callback was invoked once per Hello the model sends, and the recursion
    inside (`switch_state_mapping`) did not run out of fuel -/
theorem automata_tick_eq (e : T.Env) (he : EnvOk e) (m en : T.automata) (t : T.session_table) (p : T.lltd_automata_tick_port)
    (mx : T.mapping_state) (bx : T.band_state) (ltx : Nat)
    (hm : AutOk m) (him : IsMapping m) (hen : EnumOk en) (ht : TickTblOk t) (hb : BandOk bx) (hltx : ltx ≤ e.nowMs) :
    let r := T.automata_tick e m en t p mx bx ltx
    let M := tick { mapping := some (fsmOfC m, some (mapOfC mx)), enum := some (fsmOfC en, some (bandOfC bx)),
                    table := some (tableOfC t), lastTx := ltx } .wired e.nowMs
    M.1 = { mapping := some (fsmOfC r.mapping, some (mapOfC r.mapping_extra)),
            enum := some (fsmOfC r.enumeration, some (bandOfC r.enumeration_extra)),
            table := some (tableOfC r.sessions), lastTx := r.port_last_hello_tx_ms } ∧
    r.port_send_hello_calls = M.2.length ∧ r.diverged = false := by
  intro r M
  have hnow : e.nowS < u64 := by have := he.hc.2; omega
  let s0 : T.automata_tick.S := { mapping := m, enumeration := en, sessions := t, port := p, mapping_extra := mx, enumeration_extra := bx,
                                  port_last_hello_tx_ms := ltx, now_ms := e.nowMs, now_s := e.nowS }
  have hr : r = T.automata_tick.st11 e (T.automata_tick.st3 e (T.automata_tick.st2 e s0)) := rfl
  obtain ⟨a1, ⟨aen, abx, altx, acalls, anm, ans, adone, abrk⟩, adiv, _, a5⟩ := tick_st2 e hnow s0 hm him ht
  generalize T.automata_tick.st2 e s0 = s2 at *
  obtain ⟨b1, ⟨bm, bmx, ben, bbx, bltx, bcalls, bnm, _, bdiv, _, _⟩, _, _⟩ :=
    tick_st3 e s2 a5 adone abrk ans
  generalize T.automata_tick.st3 e s2 = s3 at *
  have hbx : s3.enumeration_extra = bx := bbx.trans abx
  have hex : s3.enumeration = en := ben.trans aen
  have hl3 : s3.port_last_hello_tx_ms = ltx := bltx.trans altx
  obtain ⟨c1, c2, c3, cm, cmx, cs, _, _, cdiv, _, _⟩ :=
    tick_st11 e he s3 (hbx ▸ hb) (hex ▸ hen) (bnm.trans anm) (hl3 ▸ hltx)
  rw [hbx, hex, hl3] at c1 c2 c3
  have a1' : tickMapStage (some (fsmOfC m, some (mapOfC mx))) (some (tableOfC t)) e.nowS =
      (some (fsmOfC s2.mapping, some (mapOfC s2.mapping_extra)), some (tableOfC s2.sessions)) := a1
  rw [hr]
  simp only [M, tick, ← he.hs, a1', Option.map_some, ← b1]
  rw [← c1, ← c2, c3, cm, cmx, cs, cdiv, bm, bmx, bdiv, adiv, bcalls.trans acalls]
  exact ⟨rfl, Nat.zero_add _, rfl⟩

end LLTD.TEq
