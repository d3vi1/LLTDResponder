/-
  The getters of os/linux/lltd_port.c that answer from the interface record (MTU, hardware address, characteristics flags,
  interface type, link speed) as translated by tools/c2lean_wire.py supply exactly what the model of the Linux port says
  (`Model/LinuxPort.lean`: `supplied`).  `iface_ctx` is the `network_interface_t` as a region of bytes; the offsets of its fields
  come out of the layout probe, which includes os/linux/daemon/linux-main.h.
-/
import LLTD.Lemmas.TranslatedWireEq
import LLTD.Model.LinuxPort

namespace LLTD.TLinuxEq
open LLTD LLTD.CSem LLTD.TWEq LLTD.LinuxPort

-- 16 = IFM_FDX (tested on MediumType), 8 = IFF_LOOPBACK (tested on flags) in lltd_port_get_characteristics_flags
theorem bit16 (x : Nat) : ((x &&& 16) != 0) = decide (x / 16 % 2 = 1) := bit_test x 4
theorem bit8 (x : Nat) : ((x &&& 8) != 0) = decide (x / 8 % 2 = 1) := bit_test x 3

/-- the bytes of a `network_interface_t` hold the model's record (field offsets as the layout probe printed them on this run) -/
structure EncRec (b : List Nat) (r : Rec) : Prop where
  ifType : unle (rd b 8 4) = r.ifType
  medium : unle (rd b 44 4) = r.mediumType
  mtu    : unle (rd b 48 4) = r.mtu
  speed  : unle (rd b 52 4) = r.linkSpeed
  flags  : unle (rd b 56 4) = r.flags
  mac    : rd b 60 6 = r.mac
  mac6   : r.mac.length = 6

theorem get_mtu_eq (env : TW.Env) (b out : List Nat) (r : Rec) (h : EncRec b r) (ho : out.length = 8) (hr : r.mtu < 4294967296) :
    (TW.lltd_port_get_mtu env b out).ret = 0 ∧ unle (TW.lltd_port_get_mtu env b out).out_mtu = (supplied r).mtu :=
  ⟨rfl, by
    show unle (wr out 0 (le 8 (unle (rd b (0 + 48) 4)))) = r.mtu
    rw [Nat.zero_add, h.mtu]; exact unle_wr_le out 8 r.mtu ho (by omega)⟩

theorem get_mac_eq (env : TW.Env) (b out : List Nat) (r : Rec) (h : EncRec b r) (ho : out.length = 6) :
    (TW.lltd_port_get_mac_address env b out).ret = 0 ∧ (TW.lltd_port_get_mac_address env b out).out_mac = (supplied r).mac :=
  ⟨rfl, by
    show wr out (0 + 0) (rd b (0 + 60) 6) = r.mac
    rw [Nat.zero_add, h.mac]; exact wr_full (by rw [ho, h.mac6])⟩

theorem get_if_type_eq (env : TW.Env) (b out : List Nat) (r : Rec) (h : EncRec b r) (ho : out.length = 4) (hr : r.ifType < 4294967296) :
    (TW.lltd_port_get_if_type env b out).ret = 0 ∧ unle (TW.lltd_port_get_if_type env b out).out_if_type = (supplied r).ifType :=
  ⟨rfl, by
    show unle (wr out 0 (le 4 (unle (rd b (0 + 8) 4)))) = r.ifType
    rw [Nat.zero_add, h.ifType]; exact unle_wr_le out 4 r.ifType ho (by omega)⟩

theorem get_link_speed_eq (env : TW.Env) (b out : List Nat) (r : Rec) (h : EncRec b r) (ho : out.length = 4) (hr : r.linkSpeed < 4294967296) :
    (TW.lltd_port_get_link_speed_100bps env b out).ret = 0
    ∧ unle (TW.lltd_port_get_link_speed_100bps env b out).out_speed_100bps = (supplied r).speed100 :=
  ⟨rfl, by
    show unle (wr out 0 (le 4 (unle (rd b (0 + 52) 4) / 100))) = r.linkSpeed / 100
    rw [Nat.zero_add, h.speed]; exact unle_wr_le out 4 _ ho (by omega)⟩

theorem get_flags_eq (env : TW.Env) (b : List Nat) (r : Rec) (h : EncRec b r) :
    (TW.lltd_port_get_characteristics_flags env b).ret = (supplied r).flags := by
  by_cases h1 : r.mediumType / 16 % 2 = 1 <;> by_cases h2 : r.flags / 8 % 2 = 1 <;>
    simp [TW.lltd_port_get_characteristics_flags, bit16, bit8, supplied, h.medium, h.flags, h1, h2]

end LLTD.TLinuxEq
